import FB.Json
import FB.FS
import FB.Prog
import FB.View
import FB.Spec
import FB.DSL
import FB.Impl
import FB.Lemmas.Json
import FB.Props.C18
import FB.Lemmas.FS
import FB.Lemmas.PathUp
import FB.Lemmas.FSKind
import FB.Lemmas.Spec
import FB.Props.C02
import FB.Props.C03
import FB.Props.C03Impl
import FB.Props.C04
import FB.Props.C10
import FB.Props.C12
import FB.Props.C15
import FB.Lemmas.Sort
import FB.Lemmas.Sim
import FB.Lemmas.SimView
import FB.Lemmas.Shapes
import FB.Lemmas.ImplRun
import FB.Lemmas.Replay
import FB.Lemmas.ReplayBasic
import FB.Lemmas.RunPending
import FB.Lemmas.SoundAux
import FB.Props.C01
import FB.Props.C06
import FB.Props.C08
import FB.Props.C13
import FB.Conc
import FB.Lemmas.Hashable
import FB.Lemmas.HashableJson
import FB.Props.C07
import FB.Props.C01Run
import FB.Props.C01Follows
import FB.Props.C01Next
import FB.Props.C01Outputs
import FB.Props.C01Step
import FB.Props.C01History
import FB.Props.C01Hash
import FB.Props.C16
import FB.CreatedFiles
import FB.Props.CreatedFilesInv
import FB.BuildDirs
import FB.Props.BuildDirsInv
import FB.PathNorm
import FB.Props.C07Path
import FB.Backups
import FB.Props.C02Backups
import FB.Props.C05Complete
import FB.Props.Gone
import FB.Props.C05Call
import FB.Props.BuildDirsGone
import FB.Overlay
import FB.Props.C04Overlay
import FB.Props.C04Start
import FB.Rollback
import FB.Props.C02Rollback
import FB.Props.C04PreClean
import FB.Props.C05Flat
import FB.Props.C05Tree
import FB.Props.C05Whole
import FB.MakeDirs
import FB.Props.C10MakeDirs
import FB.MakeRoom
import FB.MakeRoomF
import FB.MakeDirsF
import FB.Commit
import FB.PrepareF
import FB.Props.C03MakeRoom
import FB.Props.C14MakeRoomF
import FB.Props.C14MakeRoomFUndo
import FB.Props.C14MakeDirsF
import FB.Props.C14MakeDirsFUndo
import FB.Props.C12Commit
import FB.Props.C14PrepareF
import FB.Props.C05Rerun
import FB.Props.C02Steps
import FB.ConcDirs
import FB.Props.BuildDirsStarted
import FB.Props.C09Dirs
import FB.Props.C05Nested
import FB.Props.C05FirstRun
import FB.Props.C05Records
import FB.Props.C05NestedWhole
import FB.ConcDirsF
import FB.Props.BuildDirsGeneral
import FB.Props.C09DirsF
import FB.Props.C02Language
import FB.Props.BuildDirsGoneR
import FB.Props.C05NestedFail
import FB.Props.C05NestedRerun
import FB.Heap
import FB.HeapDriver
import FB.Props.C11Heap
import FB.Props.C05WholeFail
import FB.Props.C05FlatWhole
import FB.Props.C04WellFormed
import FB.Props.C04Walk
import FB.Props.C12AfterClean

/-
  For programs that use only HASH comparisons the comparison-mode assumption of the history theorem
  (`FaithfulRec`) is a theorem.
-/
import FB.Props.C01History
namespace FB
open FS Spec

/-- every comparison the program can make is a HASH comparison -/
def HashOnly (prog : Prog) : Prop :=
  (∀ p cmp k, Reach prog (.query (.read p cmp) k) → cmp = .hash) ∧
  (∀ path cmp fname args kwargs body k, Reach prog (.buildFile path cmp fname args kwargs body k) → cmp = .hash)

theorem HashOnly.of_reach {p c : Prog} (h : HashOnly p) (hr : Reach p c) : HashOnly c :=
  ⟨fun q cmp k hc => h.1 q cmp k (hr.trans hc),
   fun path cmp fname args kwargs body k hc => h.2 path cmp fname args kwargs body k (hr.trans hc)⟩

/-- the records of a HASH-only program contain only HASH comparisons -/
theorem follows_allHash {ds : Nat} {prog : Prog} {t : Option Path} {ops : List Op} {r : CallRes}
    {w : Option String} (hF : Follows ds prog t ops r w) : HashOnly prog → Op.allHashL ops = true := by
  refine hF.by_records (P := fun prog ops => HashOnly prog → Op.allHashL ops = true) (fun _ _ => rfl) ?_ ?_ ?_ ?_ ?_ ?_
  · intro q k ans ret exc ops _ ih h
    rw [Op.allHashL, Bool.and_eq_true]
    refine ⟨?_, ih (h.of_reach (.query q k ans _ (.here _)))⟩
    cases q with
    | read p cmp => rw [Op.allHash, h.1 p cmp k (.here _)]; rfl
    | _ => rfl
  · intro b mt k ops ih h
    exact ih (h.of_reach (.write b mt k _ (.here _)))
  · intro path cmp fname args kwargs body k r' ops ih h
    rw [Op.allHashL, Op.allHash, h.2 path cmp fname args kwargs body k (.here _)]
    exact ih (h.of_reach (.bfCont path cmp fname args kwargs body k r' _ (.here _)))
  · intro path cmp fname args kwargs body k subs ret cmpRes raised content r' ops _ ihb ihk h
    rw [Op.allHashL, Op.allHash, h.2 path cmp fname args kwargs body k (.here _),
      ihb (h.of_reach (.bfBody path cmp fname args kwargs body k _ (.here _)))]
    exact ihk (h.of_reach (.bfCont path cmp fname args kwargs body k r' _ (.here _)))
  · intro fname args kwargs body k r' ops ih h
    exact ih (h.of_reach (.sbCont fname args kwargs body k r' _ (.here _)))
  · intro fname args kwargs body k subs ret raised r' ops _ ihb ihk h
    rw [Op.allHashL, Op.allHash, ihb (h.of_reach (.sbBody fname args kwargs body k _ (.here _)))]
    exact ihk (h.of_reach (.sbCont fname args kwargs body k r' _ (.here _)))

/-- **HASH needs no assumption**: every registered record of a HASH-only program identifies contents -/
theorem faithfulRec_of_hash {ds : Nat} {prog : Prog} {t : Option Path} {ops : List Op} {r : CallRes}
    {w : Option String} (hF : Follows ds prog t ops r w) (hh : HashOnly prog) :
    ∀ y ∈ registeredL ops, FaithfulRec y := by
  intro y hy
  have hv := follows_registered hF y hy
  cases y with
  | simple _ _ _ _ => trivial
  | buildFile path cmp fname args kwargs subs ret cmpRes raised sf content =>
    intro hr
    obtain ⟨body, k, hreach, hfol, m0, hcr⟩ := hv hr
    have hc : cmp = .hash := hh.2 path cmp fname args kwargs body k hreach
    subst hc hcr
    refine ⟨faithful_of_hash hfol _ (follows_allHash hfol (hh.of_reach (hreach.trans (.bfBody _ _ _ _ _ _ _ _ (.here _))))), ?_⟩
    intro b m heq
    exact (cmpResult_hash_inj content b m0 m heq).symm
  | subbuild fname args kwargs subs ret raised sf =>
    intro hr
    obtain ⟨body, k, wb, hreach, hfol⟩ := hv hr
    exact faithful_of_hash hfol _ (follows_allHash hfol (hh.of_reach (hreach.trans (.sbBody _ _ _ _ _ _ (.here _)))))

/-! ### the hypotheses of `history_refines` are satisfiable by a history with a cache hit -/

def exBody : Prog := .write "o" none (.ret .null)
def exRoot : Prog := .buildFile ["x"] .hash "f" .null .null exBody (fun _ => .ret .null)
def exW : World := { fs := [], dirSize := 4096 }
def exK : KWorld := { fs := [], dirSize := 4096 }

theorem reach_exRoot_bf {path : Path} {cmp : Cmp} {fname : String} {args kwargs : Json} {body : Prog}
    {k : CallRes → Prog} (h : Reach exRoot (.buildFile path cmp fname args kwargs body k)) :
    path = ["x"] ∧ cmp = .hash ∧ body = exBody := by
  unfold exRoot at h
  cases h with
  | here => exact ⟨rfl, rfl, rfl⟩
  | bfBody _ _ _ _ _ _ _ _ h' =>
    unfold exBody at h'
    cases h' with
    | write _ _ _ _ h'' => cases h''
  | bfCont _ _ _ _ _ _ _ r _ h' => cases h'

theorem reach_exRoot_no_sub {fname : String} {args kwargs : Json} {body : Prog} {k : CallRes → Prog}
    (h : Reach exRoot (.subbuild fname args kwargs body k)) : False := by
  unfold exRoot at h
  cases h with
  | bfBody _ _ _ _ _ _ _ _ h' =>
    unfold exBody at h'
    cases h' with
    | write _ _ _ _ h'' => cases h''
  | bfCont _ _ _ _ _ _ _ r _ h' => cases h'

theorem reach_exRoot_no_query {q : Query} {k : UAns → Prog} (h : Reach exRoot (.query q k)) : False := by
  unfold exRoot at h
  cases h with
  | bfBody _ _ _ _ _ _ _ _ h' =>
    unfold exBody at h'
    cases h' with
    | write _ _ _ _ h'' => cases h''
  | bfCont _ _ _ _ _ _ _ r _ h' => cases h'

theorem hashOnly_exRoot : HashOnly exRoot :=
  ⟨fun _ _ _ h => (reach_exRoot_no_query h).elim, fun _ _ _ _ _ _ _ h => (reach_exRoot_bf h).2.1⟩

theorem stable_exRoot (ds : Nat) (old : CacheRec) (nv : List (String × Json)) : Stable ds old nv exRoot exRoot :=
  ⟨fun _ _ _ _ _ _ _ h _ _ _ _ _ h' _ _ _ _ _ _ _ hf => by
      obtain ⟨_, _, hb⟩ := reach_exRoot_bf h
      obtain ⟨_, _, hb'⟩ := reach_exRoot_bf h'
      rw [hb'] ; rw [hb] at hf; exact hf,
   fun _ _ _ _ _ h => (reach_exRoot_no_sub h).elim⟩

def isOkNull : Option CallRes → Bool
  | some (.ok .null) => true
  | _ => false

theorem isOkNull_iff (r : CallRes) : isOkNull (some r) = true → r = .ok .null := by
  intro h
  cases r with
  | error e => simp [isOkNull] at h
  | ok j => cases j <;> simp [isOkNull] at h ⊢

/-- two builds of the same program: both return `null`, the second one is served from the cache (it invokes
    nothing), and the user-side condition of `history_refines` holds -/
example : UserOK 4096 ["c"] exK [] [.build "n" [] exRoot 0, .build "n" [] exRoot 0] ∧
    (runK ["c"] exK [.build "n" [] exRoot 0, .build "n" [] exRoot 0]).map isOkNull = [true, true] ∧
    (Impl.build (Impl.build exK ["c"] "n" [] exRoot [] [] 0).world ["c"] "n" [] exRoot [] [] 0).invLog.length = 0 ∧
    (Impl.build exK ["c"] "n" [] exRoot [] [] 0).invLog.length = 1 := by
  obtain ⟨hinv, hval⟩ := hinv_init [] 4096
  have hok0 : ∀ kr, exK.cacheState ["c"] = .valid kr → CacheOK 4096 kr [] exRoot := by
    intro kr h; simp [KWorld.cacheState, exK, FS.get] at h
  have hval1 := build_step_valid exW exK [] ["c"] "n" [] exRoot 0 hinv hval hok0
  have hres : (Impl.build exK ["c"] "n" [] exRoot [] [] 0).res = .ok .null :=
    isOkNull_iff _ (by decide +kernel)
  rw [hres] at hval1
  refine ⟨⟨(fun n kr root0 hm _ _ => nomatch hm), ⟨?_, trivial⟩⟩, by decide +kernel, by decide +kernel, by decide +kernel⟩
  intro n kr root0 hm hpg _
  simp only [stepK, hres, nextProgs, List.mem_singleton, Prod.mk.injEq] at hpg hm
  obtain ⟨_, hr0⟩ := hpg
  subst hr0
  refine ⟨stable_exRoot _ _ _, ?_⟩
  obtain ⟨root0, hpg', name, ops, created, vs, rr, ww, hx, hfol⟩ := hval1 _ hm
  simp only [nextProgs, List.mem_singleton, Prod.mk.injEq] at hpg'
  obtain ⟨_, hr0⟩ := hpg'
  subst hr0
  simp only at hx
  subst hx
  intro y hy
  exact faithfulRec_of_hash hfol hashOnly_exRoot y (registered_sub_of_filter _ ops y hy)

end FB

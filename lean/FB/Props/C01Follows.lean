/-
  The records `Impl.run` produces *follow* the program it ran (`Follows`): this is what makes the cache
  written by one build valid for the next one (`CacheOK`), closing the induction over histories.
-/
import FB.Props.C01Run
namespace FB
open FS Spec

/-- the content the running function has written into target `p` so far -/
def PF (s : SpecSt) (p : Path) : Option String := (pendingFind s.pending p).map (·.1)

theorem recOK_of_run (ds : Nat) (f : FS) (q : Query) :
    RecOK ds q (match View.recVal ds f q with | .ok v => v | .error _ => .null)
      (match View.recVal ds f q with | .ok _ => none | .error e => some e) (View.answer ds f q) := by
  cases hrv : View.recVal ds f q with
  | error e =>
    simp only [RecOK]
    exact ⟨trivial, answer_of_recVal_error _ _ _ _ hrv⟩
  | ok v =>
    simp only [RecOK]
    cases q with
    | read p cmp =>
      simp only [View.recVal] at hrv
      simp only [View.answer]
      cases hg : f.get p with
      | none => simp [hg] at hrv
      | some x =>
        cases x with
        | dir => simp [hg] at hrv
        | file b m =>
          simp [hg] at hrv
          exact ⟨b, m, hrv.symm, rfl⟩
    | _ => exact ⟨⟨f, hrv⟩, answer_of_recVal_ok _ _ _ _ (fun _ _ h => nomatch h) hrv⟩

/-- facts about the state after `Impl.run`, obtained from `run_refines` against the reference run from
    the same state -/
structure After (ds : Nat) (t : Option Path) (s s' : KSt) : Prop where
  dsz : s'.sp.dirSize = ds
  ff : s'.sp.failFiles = []
  fsb : s'.sp.failSubs = []
  wf : s'.WF
  pc : PendClaimed s'.sp
  old : s'.old = s.old
  nv : s'.newVersions = s.newVersions
  claimed : ∀ p ∈ s.sp.claimedFiles, p ∈ s'.sp.claimedFiles
  inProg : s'.sp.inProg = s.sp.inProg
  /-- pending content of every target but the run's own is unchanged -/
  other : ∀ q, t ≠ some q → PF s'.sp q = PF s.sp q

theorem after_run {ds : Nat} (prog : Prog) (t : Option Path) (s : KSt)
    (hds : s.sp.dirSize = ds) (hff : s.sp.failFiles = []) (hfs : s.sp.failSubs = []) (hwf : s.WF)
    (hpc : PendClaimed s.sp) (htc : ∀ p, t = some p → p ∈ s.sp.claimedFiles)
    (hok : CacheOK ds s.old s.newVersions prog) : After ds t s (Impl.run prog t s).2.1 := by
  have h := (run_refines (ds := ds) prog t s.sp s (SpecSt.Sim.refl _) hds hff hfs hwf hpc (PendSim.refl _) htc hok).2
  have hrp := run_pending prog t s.sp hpc htc
  refine ⟨by rw [← h.sim.dirSize]; exact h.dsz, by rw [← h.sim.failFiles]; exact h.ff,
    by rw [← h.sim.failSubs]; exact h.fsb, h.wf, ?_, h.old, h.nv, h.claimed, h.inProg, ?_⟩
  · intro q hq
    have h1 : pendingFind (run prog t s.sp).2.1.pending q = none := h.pc q (by rw [h.sim.claimedFiles]; exact hq)
    have h2 := h.ps q
    rw [h1] at h2
    cases h3 : pendingFind (Impl.run prog t s).2.1.sp.pending q with
    | none => rfl
    | some x => rw [h3] at h2; cases h2
  · intro q hq
    unfold PF
    rw [← h.ps q, hrp.2 q hq]

/-- how the last write of a function relates to the pending content of its target -/
def WRel (t : Option Path) (s s' : KSt) (w : Option String) : Prop :=
  ∀ p, t = some p → (w = none → PF s'.sp p = PF s.sp p) ∧ (∀ c, w = some c → PF s'.sp p = some c)

theorem PF_filter (s s' : SpecSt) (path q : Path) (h : s'.pending = s.pending.filter (fun x => x.1 ≠ path)) :
    PF s' q = if q = path then none else PF s q := by
  unfold PF
  rw [h, pendingFind_filter]
  split <;> rfl

theorem WRel.of_after {ds : Nat} {t : Option Path} {s s3 s' : KSt} {w : Option String} (hW : WRel t s3 s' w)
    (haf : After ds none s s3) : WRel t s s' w :=
  fun p hp => ⟨fun hw => ((hW p hp).1 hw).trans (haf.other p (fun h => nomatch h)), (hW p hp).2⟩

/-- validity of the old cache does not depend on how the program goes on after a call -/
theorem CacheOK.bf_alone {ds old nv} {path : Path} {cmp : Cmp} {fname : String} {args kwargs : Json} {body : Prog}
    {k : CallRes → Prog} (h : CacheOK ds old nv (.buildFile path cmp fname args kwargs body k)) (e : Exc) :
    CacheOK ds old nv (.buildFile path cmp fname args kwargs body fun _ => .raise e) := by
  constructor
  · intro _ _ _ _ _ _ _ hr
    cases hr with
    | here => exact h.file _ _ _ _ _ _ k (.here _)
    | bfBody _ _ _ _ _ _ _ _ hr => exact h.file _ _ _ _ _ _ _ (.bfBody _ _ _ _ _ _ _ _ hr)
    | bfCont _ _ _ _ _ _ _ _ _ hr => cases hr
  · intro _ _ _ _ _ hr
    cases hr with
    | bfBody _ _ _ _ _ _ _ _ hr => exact h.sub _ _ _ _ _ (.bfBody _ _ _ _ _ _ _ _ hr)
    | bfCont _ _ _ _ _ _ _ _ _ hr => cases hr

theorem CacheOK.sb_alone {ds old nv} {fname : String} {args kwargs : Json} {body : Prog}
    {k : CallRes → Prog} (h : CacheOK ds old nv (.subbuild fname args kwargs body k)) (e : Exc) :
    CacheOK ds old nv (.subbuild fname args kwargs body fun _ => .raise e) := by
  constructor
  · intro _ _ _ _ _ _ _ hr
    cases hr with
    | sbBody _ _ _ _ _ _ hr => exact h.file _ _ _ _ _ _ _ (.sbBody _ _ _ _ _ _ hr)
    | sbCont _ _ _ _ _ _ _ hr => cases hr
  · intro _ _ _ _ _ hr
    cases hr with
    | here => exact h.sub _ _ _ _ k (.here _)
    | sbBody _ _ _ _ _ _ hr => exact h.sub _ _ _ _ _ (.sbBody _ _ _ _ _ _ hr)
    | sbCont _ _ _ _ _ _ _ hr => cases hr

/-- **The records of a run follow the program.** -/
theorem run_follows {ds : Nat} (prog : Prog) : ∀ (t : Option Path) (s : KSt),
    s.sp.dirSize = ds → s.sp.failFiles = [] → s.sp.failSubs = [] → s.WF → PendClaimed s.sp →
    (∀ p, t = some p → p ∈ s.sp.claimedFiles) → CacheOK ds s.old s.newVersions prog →
    ∃ w, Follows ds prog t (Impl.run prog t s).2.2 (Impl.run prog t s).1 w ∧
      WRel t s (Impl.run prog t s).2.1 w := by
  induction prog with
  | ret v =>
    intro t s _ _ _ _ _ _ _
    rw [Impl.run]
    cases hv : sanitize v with
    | none => exact ⟨none, .retBad v t hv, fun p _ => ⟨fun _ => rfl, fun c hc => nomatch hc⟩⟩
    | some j => exact ⟨none, .retOk v t j hv, fun p _ => ⟨fun _ => rfl, fun c hc => nomatch hc⟩⟩
  | raise e =>
    intro t s _ _ _ _ _ _ _
    exact ⟨none, .raise e t, fun p _ => ⟨fun _ => rfl, fun c hc => nomatch hc⟩⟩
  | query q k ih =>
    intro t s hds hff hfs hwf hpc htc hok
    have hrec := recOK_of_run ds (visible s.sp) q
    obtain ⟨w, hF, hW⟩ := ih (View.answer s.sp.dirSize (visible s.sp) q) t s hds hff hfs hwf hpc htc
      (hok.of_reach (.query q k _ _ (.here _)))
    rw [Impl.run_query]
    unfold Impl.queryOp
    rw [hds] at hF hW ⊢
    cases hrv : View.recVal ds (visible s.sp) q with
    | ok v =>
      rw [hrv] at hrec
      exact ⟨w, .query q k t _ _ w v none _ hrec hF, hW⟩
    | error e =>
      rw [hrv] at hrec
      exact ⟨w, .query q k t _ _ w .null (some e) _ hrec hF, hW⟩
  | write b mt k ih =>
    intro t s hds hff hfs hwf hpc htc hok
    have hok' := hok.of_reach (.write b mt k _ (.here _))
    cases t with
    | none =>
      obtain ⟨w, hF, hW⟩ := ih none s hds hff hfs hwf hpc htc hok'
      rw [Impl.run]
      exact ⟨w, .writeNone b mt k _ _ w hF, fun p hp => nomatch hp⟩
    | some p =>
      rw [Impl.run]
      obtain ⟨w, hF, hW⟩ := ih (some p)
        (Impl.liftSp s fun sp => { sp with pending := (p, b, mt.getD sp.clock) :: sp.pending, clock := sp.clock + 1 })
        hds hff hfs hwf (hpc.write (htc p rfl) b _ _) htc hok'
      refine ⟨some (w.getD b), .writeSome b mt k p _ _ w hF, ?_⟩
      intro p' hp'
      injection hp' with hp'; subst hp'
      obtain ⟨hn, hsm⟩ := hW p rfl
      refine ⟨(fun hc => nomatch hc), fun c hc => ?_⟩
      cases w with
      | none =>
        cases hc
        rw [hn rfl]
        show Option.map _ (pendingFind ((p, b, mt.getD s.sp.clock) :: s.sp.pending) p) = _
        rw [pendingFind_cons_self]; rfl
      | some c' =>
        cases hc
        exact hsm c' rfl
  | buildFile path cmp fname args kwargs body k ihb ihk =>
    intro t s hds hff hfs hwf hpc htc hok
    have hokB := hok.of_reach (.bfBody path cmp fname args kwargs body k _ (.here _))
    obtain ⟨r3, s3, op, hcall, hrun⟩ := Impl.run_buildFile_call s path cmp fname args kwargs body
    -- the state `s3` after the call is the final state of the program that consists of the call alone: what
    -- `run_refines` says of that program holds of it
    have haf := after_run (ds := ds) (.buildFile path cmp fname args kwargs body fun _ => .raise .typeErr) none s
      hds hff hfs hwf hpc (fun _ h => nomatch h) (hok.bf_alone _)
    rw [hrun] at haf ⊢
    obtain ⟨w, hF, hW⟩ := ihk r3 t s3 haf.dsz haf.ff haf.fsb haf.wf haf.pc (fun p hp => haf.claimed p (htc p hp))
      ((hok.of_reach (.bfCont path cmp fname args kwargs body k r3 _ (.here _))).of_eq haf.old haf.nv)
    refine ⟨w, ?_, hW.of_after haf⟩
    cases hcall with
    | refused e hs => exact .bfSetupFail path cmp fname args kwargs body k t _ _ w e hF
    | served sp1 made subs ret now content s2 hs hl =>
      obtain ⟨rfl, hncl, hcf, hnd, hdm, _⟩ := bfSetup_ok_fields _ _ _ _ hs
      have hpne : path ≠ [] := by intro e; subst e; simp [isDir, get_nil] at hnd
      obtain ⟨p', rcmp, rargs, rkwargs, subs', ret', cmpRes, sf, content', s2', hget, hv, hia, hik, hom, hrep, -,
        hop, -⟩ := lookupFile_full _ _ _ _ _ _ _ _ _ hl
      injection hop with _ _ _ _ _ hsubs hret hnow _ _ hcontent
      subst hsubs hret hnow hcontent
      obtain ⟨pre1, -⟩ := (SoundPre.mk (SpecSt.Sim.refl _) hds hff hfs hwf hpc htc).setup (PendSim.refl _)
        ⟨fname, some path, args, kwargs⟩ hs (SpecSt.Sim.refl _) rfl
        (Impl.afterSetup s (setupState s.sp path made) path made) _ rfl
      obtain ⟨hFb, -, ⟨m0, rfl⟩, houtF⟩ := hok.file path cmp fname args kwargs body k (.here _) p' rcmp rargs
        rkwargs subs ret cmpRes sf content hget hia hik hv
        (versionsOk_of_replay subs (Impl.afterSetup s (setupState s.sp path made) path made) s2' pre1.wf hrep)
      obtain ⟨-, bb, mm, hshelf, heqq⟩ := outputMatches_shelf _ path rcmp content m0 hom
      obtain rfl : bb = content := houtF bb mm heqq
      have hshelf2 := ((replayOps_keeps subs _ s2' pre1.wf hrep).shelfInProg path List.mem_cons_self).trans hshelf
      have hnow : Impl.cmpShelf s2' path cmp = View.cmpResult cmp bb mm := by
        unfold Impl.cmpShelf; simp only [hshelf2, hpne, if_false]
      rw [hnow]
      exact .bfOk path cmp fname args kwargs body k t subs ret bb mm _ _ w hFb hF
    | executed sp1 made out hs hl hout =>
      obtain ⟨rfl, hncl, hcf, hnd, hdm, _⟩ := bfSetup_ok_fields _ _ _ _ hs
      have hpne : path ≠ [] := by intro e; subst e; simp [isDir, get_nil] at hnd
      obtain ⟨pre1, -⟩ := (SoundPre.mk (SpecSt.Sim.refl _) hds hff hfs hwf hpc htc).setup (PendSim.refl _)
        ⟨fname, some path, args, kwargs⟩ hs (SpecSt.Sim.refl _) rfl
        (Impl.missStart (Impl.afterSetup s (setupState s.sp path made) path made) path
          ⟨fname, some path, args, kwargs⟩) _ rfl
      obtain ⟨wb, hFb, hWb⟩ := ihb (some path)
        (Impl.missStart (Impl.afterSetup s (setupState s.sp path made) path made) path
          ⟨fname, some path, args, kwargs⟩) hds hff hfs pre1.wf pre1.pc pre1.tc hokB
      obtain ⟨hWn, hWs⟩ := hWb path rfl
      have hPF0 : PF s.sp path = none := by unfold PF; rw [hpc path hncl]; rfl
      rw [hout] at hFb hWn hWs
      obtain ⟨rb, s2, subs2⟩ := out
      cases rb with
      | error e =>
        rw [bfFinish_error] at hF ⊢
        exact .bfRaise path cmp fname args kwargs body k t subs2 e .null wb _ _ w hFb hF
      | ok j =>
        cases hpf : pendingFind s2.sp.pending path with
        | none =>
          obtain rfl : wb = none := by
            cases wb with
            | none => rfl
            | some c => have := hWs c rfl; unfold PF at this; rw [hpf] at this; cases this
          rw [bfFinish_notCreated _ _ _ _ hpf] at hF ⊢
          exact .bfNotCreated path cmp fname args kwargs body k t subs2 j _ _ w hFb hF
        | some cm =>
          obtain ⟨c, m⟩ := cm
          obtain rfl : wb = some c := by
            cases wb with
            | none => have := (hWn rfl).trans hPF0; unfold PF at this; rw [hpf] at this; cases this
            | some c' => have := hWs c' rfl; unfold PF at this; rw [hpf] at this; simp at this; rw [this]
          rw [bfFinish_ok s2.sp path made j c m hpf] at hF ⊢
          have hget : (finOk s2.sp path made c m).fs.get path = some (.file c m) := get_set_self _ _ _ hpne
          simp only [Impl.execFileOp, Impl.withSp, Impl.cmpBuilt, hget]
          exact .bfOk path cmp fname args kwargs body k t subs2 j c m _ _ w hFb hF
  | subbuild fname args kwargs body k ihb ihk =>
    intro t s hds hff hfs hwf hpc htc hok
    have hokB := hok.of_reach (.sbBody fname args kwargs body k _ (.here _))
    obtain ⟨r3, s3, op, hcall, hrun⟩ := Impl.run_subbuild_call s fname args kwargs body
    have haf := after_run (ds := ds) (.subbuild fname args kwargs body fun _ => .raise .typeErr) none s
      hds hff hfs hwf hpc (fun _ h => nomatch h) (hok.sb_alone _)
    rw [hrun] at haf ⊢
    obtain ⟨w, hF, hW⟩ := ihk r3 t s3 haf.dsz haf.ff haf.fsb haf.wf haf.pc (fun p hp => haf.claimed p (htc p hp))
      ((hok.of_reach (.sbCont fname args kwargs body k r3 _ (.here _))).of_eq haf.old haf.nv)
    refine ⟨w, ?_, hW.of_after haf⟩
    cases hcall with
    | dup h1 => exact .sbSetupFail fname args kwargs body k t _ _ w _ hF
    | fault h1 h2 => rw [hfs] at h2; cases h2
    | served subs ret s2 h1 h2 hl =>
      obtain ⟨f, a, kk, subs', ret', sf, hget, hv, hrep, hop⟩ := lookupSub_some _ _ _ _ _ _ hl
      injection hop with _ _ _ hsubs hret
      subst hsubs hret
      obtain ⟨wb, hFb, -⟩ := hok.sub fname args kwargs body k (.here _) f a kk subs ret sf hget hv
        (versionsOk_of_replay subs (Impl.subClaim s (subKey fname args kwargs)) s3 hwf hrep)
      exact .sbOk fname args kwargs body k t subs ret wb _ _ w hFb hF
    | executed out h1 h2 hl hout =>
      obtain ⟨wb, hFb, -⟩ := ihb none
        (Impl.subStart (Impl.subClaim s (subKey fname args kwargs)) ⟨fname, none, args, kwargs⟩)
        hds hff hfs hwf hpc (fun p hp => nomatch hp) hokB
      rw [hout] at hFb
      obtain ⟨rb, s2, subs2⟩ := out
      cases rb with
      | ok j => exact .sbOk fname args kwargs body k t subs2 j wb _ _ w hFb hF
      | error e => exact .sbRaise fname args kwargs body k t subs2 e wb _ _ w hFb hF

end FB

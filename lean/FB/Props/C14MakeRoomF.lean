/-
  `_make_room`, with and without an injected fault.  `MakeRoom.Moved` says what the method may do to tree and undo
  log in either model: move files the virtual tree does not know to the log, remove directories the virtual tree does
  not know.

  C14 (`FB.MakeRoomF`): at whichever of its mutating calls the `OSError` strikes, and whether the method returns, gives
  up with `IsADirectoryError` or lets the `OSError` through, that is all it has done (`makeRoomF_moved`,
  `makeRoomF_keeps_virtual`, `makeRoomF_no_file_lost`); the raw `OSError` comes out only at the announced call
  (`makeRoomF_raw`); and with no fault the model is `FB.MakeRoom.makeRoom` (`makeRoomF_none`), which is how
  `Props/C03MakeRoom.lean` gets the same statements for that model.

  Every run is a sequence of renames and `rmdir`s (`makeRoom_run`); each statement about all runs is proved by saying
  what one such step preserves.
-/
import FB.MakeRoomF
import FB.Props.C02Backups
namespace FB
namespace MakeRoom
open FS

/-- `st'` came out of `st` by moving unknown files to the log and removing unknown directories (or `top`) -/
structure Moved (virtDir virtFile : Path → Bool) (top : Path) (st st' : St) : Prop where
  log : ∀ x ∈ st.bk.saved, x ∈ st'.bk.saved
  tree : ∀ q, st'.fs.get q = st.fs.get q ∨
    (st'.fs.get q = none ∧
      ((∃ c m, st.fs.get q = some (.file c m) ∧ virtFile q = false ∧ (q, Entry.file c m) ∈ st'.bk.saved) ∨
       (st.fs.get q = some .dir ∧ (virtDir q = false ∨ q = top))))

theorem Moved.refl (vd vf : Path → Bool) (top : Path) (st : St) : Moved vd vf top st st :=
  ⟨fun _ h => h, fun _ => Or.inl rfl⟩

theorem Moved.trans {vd vf : Path → Bool} {top : Path} {a b c : St} (h1 : Moved vd vf top a b) (h2 : Moved vd vf top b c) :
    Moved vd vf top a c := by
  refine ⟨fun x hx => h2.log x (h1.log x hx), ?_⟩
  intro q
  rcases h2.tree q with e2 | ⟨n2, k2⟩
  · rcases h1.tree q with e1 | ⟨n1, k1⟩
    · left; rw [e2, e1]
    · right
      refine ⟨by rw [e2, n1], ?_⟩
      rcases k1 with ⟨c, m, g1, g2, g3⟩ | g
      · exact Or.inl ⟨c, m, g1, g2, h2.log _ g3⟩
      · exact Or.inr g
  · rcases h1.tree q with e1 | ⟨n1, _⟩
    · right
      refine ⟨n2, ?_⟩
      rw [e1] at k2
      exact k2
    · rcases k2 with ⟨c, m, g1, _, _⟩ | ⟨g1, _⟩ <;> (rw [n1] at g1; cases g1)

theorem backup_moved (vd vf : Path → Bool) (top : Path) (st : St) (sub : Path) (hnd : st.fs.isDir sub = false)
    (hvf : vf sub = false) :
    Moved vd vf top st { fs := (Backups.backUpAndRemove st.fs st.bk sub).1, bk := (Backups.backUpAndRemove st.fs st.bk sub).2.1 } := by
  rcases Backups.backUp_nondir st.fs st.bk sub hnd with ⟨_, hb⟩ | ⟨c, m, hg, hb⟩
  · rw [hb]; exact Moved.refl ..
  · rw [hb]
    have hne : sub ≠ [] := fun e => by rw [e, get_nil] at hg; cases hg
    refine ⟨fun x hx => List.mem_append_left _ hx, fun q => ?_⟩
    by_cases hq : q = sub
    · rw [hq]
      exact Or.inr ⟨get_erase_self _ _ hne, Or.inl ⟨c, m, hg, hvf, List.mem_append_right _ (List.mem_singleton_self _)⟩⟩
    · exact Or.inl (get_erase_ne _ _ _ hq)

theorem Moved.rmdir (vd vf : Path → Bool) (top : Path) (st : St) (d : Path) (fs' : FS) (hvd : vd d = false ∨ d = top)
    (hr : st.fs.rmdir d = .ok fs') : Moved vd vf top st { st with fs := fs' } := by
  refine ⟨fun x hx => hx, fun q => ?_⟩
  show fs'.get q = _ ∨ _
  rw [get_rmdir st.fs fs' d q hr]
  by_cases hq : q = d
  · subst hq
    rw [if_pos rfl]
    exact Or.inr ⟨rfl, Or.inr ⟨(rmdir_was_empty_dir st.fs fs' q hr).1, hvd⟩⟩
  · rw [if_neg hq]; exact Or.inl rfl

theorem Moved.keeps_virtual {vd vf : Path → Bool} {top : Path} {st st' : St} (h : Moved vd vf top st st') (q : Path)
    (hq : q ≠ top) (hv : (vf q = true ∧ st.fs.isFile q = true) ∨ (vd q = true ∧ st.fs.isDir q = true)) :
    st'.fs.get q = st.fs.get q := by
  rcases h.tree q with e | ⟨_, k⟩
  · exact e
  · exfalso
    rcases k with ⟨c, m, g1, g2, _⟩ | ⟨g1, g2⟩
    · rcases hv with ⟨h1, _⟩ | ⟨_, h2⟩
      · rw [g2] at h1; cases h1
      · rw [isDir_iff, g1] at h2; cases h2
    · rcases hv with ⟨_, h2⟩ | ⟨h1, _⟩
      · obtain ⟨c, m, e⟩ := isFile_iff.mp h2
        rw [g1] at e; cases e
      · rcases g2 with g2 | g2
        · rw [g2] at h1; cases h1
        · exact hq g2

end MakeRoom

namespace MakeRoomF
open FS
open MakeRoom (Moved backup_moved)

/-- **The runs of `_make_room` on `d0`**: renames of non-directories below `d0` that the virtual tree does not
    know, `rmdir`s of directories below `d0` that the virtual tree does not know (or of `d0` itself), each counted
    and none of them the announced call; the run ends by returning, by giving up, or with the fault at the announced
    call.  So what every such step keeps (`J`) holds when the method returns, and what follows from it (`I`) when it
    fails. -/
theorem makeRoom_run (vd vf : Path → Bool) (fa : Option Nat) (d0 : Path) (J I : C → Prop)
    (hback : ∀ (c : C) (sub : Path), d0 <+: sub → c.st.fs.isDir sub = false → vf sub = false → fa ≠ some c.n → J c →
      J { c with st := { fs := (Backups.backUpAndRemove c.st.fs c.st.bk sub).1,
                         bk := (Backups.backUpAndRemove c.st.fs c.st.bk sub).2.1 }, n := c.n + 1 })
    (hrmdir : ∀ (c : C) (d : Path) (fs' : FS), d0 <+: d → (vd d = false ∨ d = d0) → fa ≠ some c.n →
      c.st.fs.rmdir d = .ok fs' → J c → J { c with st := { c.st with fs := fs' }, n := c.n + 1 })
    (hgiveup : ∀ c, J c → I c)
    (hfault : ∀ c, fa = some c.n → J c → I { c with raw := true }) :
    ∀ (fuel : Nat) (c c' : C) (d : Path), d0 <+: d → (vd d = false ∨ d = d0) → J c →
      (makeRoom vd vf fa fuel c d = .ok c' → J c') ∧ (makeRoom vd vf fa fuel c d = .error c' → I c') := by
  intro fuel
  induction fuel with
  | zero =>
    intro c c' d _ _ hc
    rw [makeRoom]
    exact ⟨nofun, fun h => Except.error.inj h ▸ hgiveup c hc⟩
  | succ fuel ihf =>
    intro c c' d hd0 hvd hc
    have hen : ∀ (l : List String) (c c' : C), J c →
        (entries vd vf fa fuel c d l = .ok c' → J c') ∧ (entries vd vf fa fuel c d l = .error c' → I c') := by
      intro l
      induction l with
      | nil =>
        intro c c' hc
        rw [entries]
        exact ⟨fun h => Except.ok.inj h ▸ hc, nofun⟩
      | cons n rest ih =>
        intro c c' hc
        have hsub : d0 <+: d ++ [n] := hd0.trans (List.prefix_append _ _)
        rw [entries]
        simp only
        by_cases hd : c.st.fs.isDir (d ++ [n]) = true
        · rw [if_pos hd]
          by_cases hv : vd (d ++ [n]) = true
          · rw [if_pos hv]
            exact ⟨nofun, fun h => Except.error.inj h ▸ hgiveup c hc⟩
          · rw [if_neg hv]
            have hsubcall := fun c1 => ihf c c1 (d ++ [n]) hsub (Or.inl (Bool.not_eq_true _ ▸ hv)) hc
            cases hr : makeRoom vd vf fa fuel c (d ++ [n]) with
            | error c1 => exact ⟨nofun, fun h => Except.error.inj h ▸ (hsubcall c1).2 hr⟩
            | ok c1 => exact ih c1 c' ((hsubcall c1).1 hr)
        · rw [if_neg hd]
          by_cases hv : vf (d ++ [n]) = true
          · rw [if_pos hv]
            exact ⟨nofun, fun h => Except.error.inj h ▸ hgiveup c hc⟩
          · rw [if_neg hv]
            by_cases hf : fa = some c.n
            · rw [if_pos hf]
              exact ⟨nofun, fun h => Except.error.inj h ▸ hfault c hf hc⟩
            · rw [if_neg hf]
              exact ih _ c' (hback c (d ++ [n]) hsub (Bool.not_eq_true _ ▸ hd) (Bool.not_eq_true _ ▸ hv) hf hc)
    rw [makeRoom]
    cases he : entries vd vf fa fuel c d (c.st.fs.listdir d) with
    | error c1 => exact ⟨nofun, fun h => Except.error.inj h ▸ (hen _ c c1 hc).2 he⟩
    | ok c1 =>
      have h1 := (hen _ c c1 hc).1 he
      simp only
      by_cases hf : fa = some c1.n
      · rw [if_pos hf]
        exact ⟨nofun, fun h => Except.error.inj h ▸ hgiveup c1 h1⟩
      · rw [if_neg hf]
        cases hr : c1.st.fs.rmdir d with
        | error e => exact ⟨nofun, fun h => Except.error.inj h ▸ hgiveup c1 h1⟩
        | ok fs' => exact ⟨fun h => Except.ok.inj h ▸ hrmdir c1 d fs' hd0 hvd hf hr h1, nofun⟩

/-- the same for what only looks at the tree and the undo log -/
theorem makeRoom_inv (vd vf : Path → Bool) (fa : Option Nat) (d0 : Path) (I : MakeRoom.St → Prop)
    (hback : ∀ (st : MakeRoom.St) (sub : Path), d0 <+: sub → st.fs.isDir sub = false → vf sub = false → I st →
      I { fs := (Backups.backUpAndRemove st.fs st.bk sub).1, bk := (Backups.backUpAndRemove st.fs st.bk sub).2.1 })
    (hrmdir : ∀ (st : MakeRoom.St) (d : Path) (fs' : FS), d0 <+: d → (vd d = false ∨ d = d0) →
      st.fs.rmdir d = .ok fs' → I st → I { st with fs := fs' })
    (fuel : Nat) (c c' : C) (hc : I c.st)
    (h : makeRoom vd vf fa fuel c d0 = .ok c' ∨ makeRoom vd vf fa fuel c d0 = .error c') : I c'.st := by
  have := makeRoom_run vd vf fa d0 (fun c => I c.st) (fun c => I c.st)
    (fun c sub h1 h2 h3 _ h4 => hback c.st sub h1 h2 h3 h4) (fun c d fs' h1 h2 _ h3 h4 => hrmdir c.st d fs' h1 h2 h3 h4)
    (fun _ h => h) (fun _ _ h => h) fuel c c' d0 (List.prefix_refl _) (Or.inr rfl) hc
  exact h.elim this.1 this.2

/-- **C14 for `_make_room`: wherever the fault strikes, only unknown files have been moved to the undo log and only
    unknown directories removed** - the statement of `makeRoom_moved`, for every fault position and both outcomes -/
theorem makeRoomF_moved (vd vf : Path → Bool) (fa : Option Nat) : ∀ (fuel : Nat) (c : C) (d : Path), ∀ c',
    (makeRoom vd vf fa fuel c d = .ok c' ∨ makeRoom vd vf fa fuel c d = .error c') → Moved vd vf d c.st c'.st :=
  fun fuel c d c' h => makeRoom_inv vd vf fa d (Moved vd vf d c.st)
    (fun st sub _ hnd hvf hm => hm.trans (backup_moved vd vf d st sub hnd hvf))
    (fun st x fs' _ hvd hr hm => hm.trans (Moved.rmdir vd vf d st x fs' hvd hr))
    fuel c c' (Moved.refl ..) h

/-- in particular: whatever the virtual tree knows is untouched, wherever the fault strikes -/
theorem makeRoomF_keeps_virtual (vd vf : Path → Bool) (fa : Option Nat) (fuel : Nat) (c : C) (d : Path) (c' : C)
    (h : makeRoom vd vf fa fuel c d = .ok c' ∨ makeRoom vd vf fa fuel c d = .error c') (q : Path) (hq : q ≠ d)
    (hv : (vf q = true ∧ c.st.fs.isFile q = true) ∨ (vd q = true ∧ c.st.fs.isDir q = true)) : c'.st.fs.get q = c.st.fs.get q :=
  (makeRoomF_moved vd vf fa fuel c d c' h).keeps_virtual q hq hv

/-- and no regular file is lost: one that is gone is in the undo log with its bytes and time -/
theorem makeRoomF_no_file_lost (vd vf : Path → Bool) (fa : Option Nat) (fuel : Nat) (c : C) (d : Path) (c' : C)
    (h : makeRoom vd vf fa fuel c d = .ok c' ∨ makeRoom vd vf fa fuel c d = .error c') (q : Path) (cc : String) (m : Nat)
    (hq : c.st.fs.get q = some (.file cc m)) :
    c'.st.fs.get q = some (.file cc m) ∨ (q, Entry.file cc m) ∈ c'.st.bk.saved := by
  rcases (makeRoomF_moved vd vf fa fuel c d c' h).tree q with e | ⟨_, k⟩
  · left; rw [e, hq]
  · right
    rcases k with ⟨c2, m2, g1, _, g3⟩ | ⟨g1, _⟩
    · rw [hq] at g1; cases g1; exact g3
    · rw [hq] at g1; cases g1

/-- forget the call counter -/
def proj : Except C C → Except MakeRoom.St MakeRoom.St
  | .ok c => .ok c.st
  | .error c => .error c.st

theorem entries_none (vd vf : Path → Bool) (fuel : Nat)
    (hmr : ∀ (c : C) (d : Path), proj (makeRoom vd vf none fuel c d) = MakeRoom.makeRoom vd vf fuel c.st d) :
    ∀ (l : List String) (c : C) (d : Path), proj (entries vd vf none fuel c d l) = MakeRoom.entries vd vf fuel c.st d l := by
  intro l
  induction l with
  | nil => intro c d; rw [entries, MakeRoom.entries]; rfl
  | cons n rest ih =>
    intro c d
    rw [entries, MakeRoom.entries]
    simp only
    by_cases hd : c.st.fs.isDir (d ++ [n]) = true
    · rw [if_pos hd, if_pos hd]
      by_cases hv : vd (d ++ [n]) = true
      · rw [if_pos hv, if_pos hv]; rfl
      · rw [if_neg hv, if_neg hv, ← hmr c (d ++ [n])]
        cases makeRoom vd vf none fuel c (d ++ [n]) with
        | error c1 => rfl
        | ok c1 => exact ih c1 d
    · rw [if_neg hd, if_neg hd]
      by_cases hv : vf (d ++ [n]) = true
      · rw [if_pos hv, if_pos hv]; rfl
      · rw [if_neg hv, if_neg hv, if_neg (nofun : ¬ (none : Option Nat) = some c.n)]
        exact ih _ d

/-- **without a fault the model is `FB.MakeRoom.makeRoom`** (so everything tied to and proved about that model is
    about the fault-free runs of this one) -/
theorem makeRoomF_none (vd vf : Path → Bool) : ∀ (fuel : Nat) (c : C) (d : Path),
    proj (makeRoom vd vf none fuel c d) = MakeRoom.makeRoom vd vf fuel c.st d := by
  intro fuel
  induction fuel with
  | zero => intro c d; rw [makeRoom, MakeRoom.makeRoom]; rfl
  | succ fuel ihf =>
    intro c d
    rw [makeRoom, MakeRoom.makeRoom, ← entries_none vd vf fuel ihf (c.st.fs.listdir d) c d]
    cases entries vd vf none fuel c d (c.st.fs.listdir d) with
    | error c1 => rfl
    | ok c1 =>
      simp only [proj]
      rw [if_neg (nofun : ¬ (none : Option Nat) = some c1.n)]
      cases c1.st.fs.rmdir d with
      | error e => rfl
      | ok fs' => rfl

/-- the raw `OSError` comes out only when the fault fired, at exactly the announced call -/
theorem makeRoomF_raw (vd vf : Path → Bool) (fa : Option Nat) : ∀ (fuel : Nat) (c : C) (d : Path) (c' : C), c.raw = false →
    (makeRoom vd vf fa fuel c d = .ok c' → c'.raw = false) ∧
    (makeRoom vd vf fa fuel c d = .error c' → c'.raw = true → fa = some c'.n) :=
  fun fuel c d c' hc => makeRoom_run vd vf fa d (fun c => c.raw = false) (fun c => c.raw = true → fa = some c.n)
    (fun _ _ _ _ _ _ h => h) (fun _ _ _ _ _ _ _ h => h) (fun c h hr => by rw [h] at hr; cases hr) (fun _ hf _ _ => hf)
    fuel c c' d (List.prefix_refl _) (Or.inr rfl) hc

/-- non-vacuity: a directory with two old outputs; the fault at the second rename leaves the first file in the log,
    the second where it was, the exception raw; the fault at the rmdir is reported as IsADirectoryError -/
def exFS : FS := [(["d", "b"], .file "y" 2), (["d", "a"], .file "x" 1), (["d"], .dir)]
def exOut (k : Nat) : Bool × Bool × Nat × List Path × Bool × Bool :=
  match makeRoom (fun _ => false) (fun _ => false) (some k) 8 { st := { fs := exFS, bk := {} } } ["d"] with
  | .error c => (false, c.raw, c.n, c.st.bk.saved.map (·.1), c.st.fs.isFile ["d", "b"], c.st.fs.isDir ["d"])
  | .ok c => (true, c.raw, c.n, c.st.bk.saved.map (·.1), c.st.fs.isFile ["d", "b"], c.st.fs.isDir ["d"])
-- evaluated, not proved (the hypotheses of the theorems above are met by every run: each run has an outcome)
#guard exOut 0 = (false, true, 0, [], true, true)
#guard exOut 1 = (false, true, 1, [["d", "a"]], true, true)
#guard exOut 2 = (false, false, 2, [["d", "a"], ["d", "b"]], false, true)
#guard exOut 3 = (true, false, 3, [["d", "a"], ["d", "b"]], false, false)
end MakeRoomF
end FB

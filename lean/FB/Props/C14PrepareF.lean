/-
  C14 — the whole set-up of a `build_file` (`_prepare_file_creation` = `_make_room` where needed, then `_make_dirs`)
  under a fault at any of its mutating calls: the bookkeeping of the build stays `Undoable`, so the rollback that
  follows an uncaught fault restores exactly the pre-build regular files (`C14_prepare_fault_rollback`); and a set-up that
  fails leaves nothing new in the tree (`prepare_failure_leaves_nothing`, with `makeRoomF_wf`).
-/
import FB.PrepareF
import FB.Props.C14MakeRoomFUndo
import FB.Props.C14MakeDirsFUndo
import FB.Props.C04WellFormed
namespace FB
namespace Rollback
open FS Spec Backups BuildDirs
open MakeRoomF (C)

/-- what `_make_room` adds to the undo log lies below the directory it clears -/
theorem makeRoomF_saved_below (vd vf : Path → Bool) (fa : Option Nat) : ∀ (fuel : Nat) (c c' : C) (d : Path),
    (MakeRoomF.makeRoom vd vf fa fuel c d = .ok c' ∨ MakeRoomF.makeRoom vd vf fa fuel c d = .error c') →
    ∀ x ∈ c'.st.bk.saved, x ∈ c.st.bk.saved ∨ d <+: x.1 :=
  fun fuel c c' d hr => MakeRoomF.makeRoom_inv vd vf fa d (fun st => ∀ x ∈ st.bk.saved, x ∈ c.st.bk.saved ∨ d <+: x.1)
    (fun st sub hsub _ _ hst x hx => (Backups.backUp_saved st.fs st.bk sub x hx).elim (hst x) (fun e => Or.inr (e ▸ hsub)))
    (fun _ _ _ _ _ _ hst => hst) fuel c c' (fun _ hx => Or.inl hx) hr

/-- the ways `_prepare_file_creation` can go: the target is a directory the virtual tree knows; `_make_room` fails;
    or `_make_room` was not needed or returned, and `_make_dirs` returns or fails -/
theorem prepare_elim (vd vf : Path → Bool) (oldCreated : List Path) (fa : Option Nat) (fuel : Nat)
    (fs : FS) (bk : Backups.BK) (target : Path) (dirs : List Path) (Q : PrepareF.Out → Prop)
    (hknown : fs.isDir target = true → vd target = true → Q { st := { fs := fs, bk := bk }, n := 0, kind := .isADir })
    (hroom : ∀ c, fs.isDir target = true → vd target = false →
      MakeRoomF.makeRoom vd vf fa fuel { st := { fs := fs, bk := bk } } target = .error c →
      Q { st := { fs := c.st.fs, bk := c.st.bk }, n := c.n, kind := if c.raw then .osError else .isADir })
    (hdirs : ∀ (st1 : MakeRoom.St) (n1 : Nat),
      ((fs.isDir target = false ∧ st1 = { fs := fs, bk := bk } ∧ n1 = 0) ∨
       (fs.isDir target = true ∧ vd target = false ∧
         ∃ c, MakeRoomF.makeRoom vd vf fa fuel { st := { fs := fs, bk := bk } } target = .ok c ∧ st1 = c.st ∧ n1 = c.n)) →
      (∀ out, MakeDirsF.loop oldCreated fa dirs n1 { fs := st1.fs, bk := st1.bk } = .ok out →
        Q { st := out.1, n := out.2, kind := .ok }) ∧
      (∀ out, MakeDirsF.loop oldCreated fa dirs n1 { fs := st1.fs, bk := st1.bk } = .error out →
        Q { st := out.1, n := out.2, kind := .osError })) :
    Q (PrepareF.prepare vd vf oldCreated fa fuel fs bk target dirs) := by
  have hsecond : ∀ (st1 : MakeRoom.St) (n1 : Nat),
      ((fs.isDir target = false ∧ st1 = { fs := fs, bk := bk } ∧ n1 = 0) ∨
       (fs.isDir target = true ∧ vd target = false ∧
         ∃ c, MakeRoomF.makeRoom vd vf fa fuel { st := { fs := fs, bk := bk } } target = .ok c ∧ st1 = c.st ∧ n1 = c.n)) →
      Q (match MakeDirsF.loop oldCreated fa dirs n1 { fs := st1.fs, bk := st1.bk } with
        | .ok (st2, n2) => { st := st2, n := n2, kind := .ok }
        | .error (st2, n2) => { st := st2, n := n2, kind := .osError }) := by
    intro st1 n1 hfirst
    cases hl : MakeDirsF.loop oldCreated fa dirs n1 { fs := st1.fs, bk := st1.bk } with
    | ok out => exact (hdirs st1 n1 hfirst).1 out hl
    | error out => exact (hdirs st1 n1 hfirst).2 out hl
  unfold PrepareF.prepare
  simp only
  by_cases hd : fs.isDir target = true
  · rw [if_pos hd]
    by_cases hv : vd target = true
    · rw [if_pos hv]; exact hknown hd hv
    · have hv' : vd target = false := Bool.not_eq_true _ ▸ hv
      rw [if_neg hv]
      cases hm : MakeRoomF.makeRoom vd vf fa fuel { st := { fs := fs, bk := bk } } target with
      | error c => exact hroom c hd hv' hm
      | ok c => exact hsecond c.st c.n (Or.inr ⟨hd, hv', c, hm, rfl, rfl⟩)
  · rw [if_neg hd]
    exact hsecond { fs := fs, bk := bk } 0 (Or.inl ⟨Bool.not_eq_true _ ▸ hd, rfl, rfl⟩)

/-- **the set-up of a `build_file` keeps the bookkeeping `Undoable` wherever an `OSError` strikes** - in `_make_room`,
    in `_make_dirs`, at a rename, an rmdir or a mkdir -, provided the parents to be made are not below the target, are
    distinct, and neither they nor anything below the target is an output of this build or in the undo log already -/
theorem prepare_undoable (vd vf : Path → Bool) (oldCreated : List Path) (fa : Option Nat) (fuel : Nat)
    (P0 : FS) (r : RB) (fs : FS) (target : Path) (dirs : List Path)
    (h : Undoable P0 fs r)
    (hbelow : ∀ q, target <+: q → q ∉ r.newOutputs ∧ q ∉ r.bk.saved.map (·.1))
    (hnd : dirs.Nodup)
    (hdirs : ∀ d ∈ dirs, d ∉ r.newOutputs ∧ d ∉ r.bk.saved.map (·.1) ∧ ¬ target <+: d) :
    let o := PrepareF.prepare vd vf oldCreated fa fuel fs r.bk target dirs
    Undoable P0 o.st.fs (rbOf r o.st) := by
  intro o
  have hstart : RoomOK P0 r target { fs := fs, bk := r.bk } :=
    ⟨h, fun q hq hm => absurd hm (hbelow q hq).2⟩
  have hroom := fun c => makeRoomF_undoable vd vf fa P0 r target (fun q hq => (hbelow q hq).1) fuel
    { st := { fs := fs, bk := r.bk } } c target (List.prefix_refl _) hstart
  refine prepare_elim vd vf oldCreated fa fuel fs r.bk target dirs (fun o => Undoable P0 o.st.fs (rbOf r o.st))
    (fun _ _ => h) (fun c _ _ hm => (hroom c (Or.inr hm)).1) (fun st1 n1 hfirst => ?_)
  -- the second phase, from any state the first phase can leave
  have hok : RoomOK P0 r target st1 ∧ ∀ x ∈ st1.bk.saved, x ∈ r.bk.saved ∨ target <+: x.1 := by
    rcases hfirst with ⟨_, rfl, _⟩ | ⟨_, _, c, hm, rfl, _⟩
    · exact ⟨hstart, fun x hx => Or.inl hx⟩
    · exact ⟨hroom c (Or.inl hm), makeRoomF_saved_below vd vf fa fuel _ c target (Or.inl hm)⟩
  have hsecond := fun out => makeDirsF_undoable oldCreated fa P0 (rbOfR r st1) dirs n1 { fs := st1.fs, bk := st1.bk } out hnd
    (fun d hd => by
      obtain ⟨g1, g2, g3⟩ := hdirs d hd
      refine ⟨g1, fun hm => ?_⟩
      obtain ⟨x, hx, hxe⟩ := List.mem_map.mp hm
      rcases hok.2 x hx with hx' | hx'
      · exact g2 (List.mem_map.mpr ⟨x, hx', hxe⟩)
      · exact g3 (hxe ▸ hx'))
    hok.1.1
  exact ⟨fun out hl => hsecond out (Or.inl hl), fun out hl => hsecond out (Or.inr hl)⟩

/-- **C14 for the set-up of a `build_file`, end to end**: wherever the fault strikes in `_make_room` or `_make_dirs`,
    and whatever the outcome, the rollback that follows puts back exactly the regular files of the pre-build tree and
    leaves no new directory (up to the recorded directories of the previous build) -/
theorem C14_prepare_fault_rollback (vd vf : Path → Bool) (oldCreated : List Path) (fa : Option Nat) (fuel : Nat)
    (P0 : FS) (hwf0 : TreeWF P0) (r : RB) (fs : FS) (target : Path) (dirs : List Path)
    (h : Undoable P0 fs r)
    (hbelow : ∀ q, target <+: q → q ∉ r.newOutputs ∧ q ∉ r.bk.saved.map (·.1))
    (hnd : dirs.Nodup)
    (hdirs : ∀ d ∈ dirs, d ∉ r.newOutputs ∧ d ∉ r.bk.saved.map (·.1) ∧ ¬ target <+: d) :
    let o := PrepareF.prepare vd vf oldCreated fa fuel fs r.bk target dirs
    (∀ p c m, P0.get p = some (.file c m) → (rollBack o.st.fs (rbOf r o.st)).get p = some (.file c m)) ∧
    (∀ p c m, (rollBack o.st.fs (rbOf r o.st)).get p = some (.file c m) → P0.get p = some (.file c m)) ∧
    (∀ d, (rollBack o.st.fs (rbOf r o.st)).isDir d = true → P0.isDir d = true ∨ d ∈ r.oldCreatedDirs) := by
  intro o
  exact rollBack_restores_files P0 o.st.fs (rbOf r o.st) hwf0
    (prepare_undoable vd vf oldCreated fa fuel P0 r fs target dirs h hbelow hnd hdirs)

/-- the premises of `C14_prepare_fault_rollback` are met (non-vacuity): the set-up of the FIRST `build_file` of a build,
    on any well-formed tree, any target, any distinct parents that do not lie below the target, the fault anywhere -/
theorem C14_prepare_fault_rollback_first_step (vd vf : Path → Bool) (oldCreated : List Path) (fa : Option Nat) (fuel : Nat)
    (P0 : FS) (hwf0 : TreeWF P0) (oldOutputs oldCreatedDirs : List Path) (target : Path) (dirs : List Path)
    (hnd : dirs.Nodup) (hnb : ∀ d ∈ dirs, ¬ target <+: d) :
    let r : RB := { oldOutputs := oldOutputs, oldCreatedDirs := oldCreatedDirs }
    let o := PrepareF.prepare vd vf oldCreated fa fuel P0 r.bk target dirs
    ∀ p c m, P0.get p = some (.file c m) → (rollBack o.st.fs (rbOf r o.st)).get p = some (.file c m) := by
  intro r o
  exact (C14_prepare_fault_rollback vd vf oldCreated fa fuel P0 hwf0 r P0 target dirs
    (Undoable.start P0 oldOutputs oldCreatedDirs)
    (fun _ _ => ⟨(fun h => nomatch h), (fun h => nomatch h)⟩) hnd
    (fun d hd => ⟨(fun h => nomatch h), (fun h => nomatch h), hnb d hd⟩)).1

/-- `_make_room` keeps the tree well-formed (parents of entries are directories), wherever it stops -/
theorem makeRoomF_wf (vd vf : Path → Bool) (fa : Option Nat) : ∀ (fuel : Nat) (c c' : C) (d : Path), TreeWF c.st.fs →
    (MakeRoomF.makeRoom vd vf fa fuel c d = .ok c' ∨ MakeRoomF.makeRoom vd vf fa fuel c d = .error c') → TreeWF c'.st.fs := by
  intro fuel c c' d h hr
  refine MakeRoomF.makeRoom_inv vd vf fa d (fun st => TreeWF st.fs) ?_ ?_ fuel c c' h hr
  · intro st sub _ hnd _ hst
    show TreeWF (Backups.backUpAndRemove st.fs st.bk sub).1
    rcases Backups.backUp_nondir st.fs st.bk sub hnd with ⟨_, hb⟩ | ⟨_, _, _, hb⟩
    · rw [hb]; exact hst
    · rw [hb]; exact wf_erase_nondir _ _ hst hnd
  · intro st x fs' _ _ hrm hst
    have := wf_rmdirStep st.fs x hst
    unfold rmdirStep at this
    rw [hrm] at this
    exact this

/-- **C10/C14 for the whole set-up: a set-up that fails leaves nothing new** - whichever call fails, in `_make_room` or
    in `_make_dirs`, by itself or by the injected fault: every entry of the tree it leaves was there before, unchanged
    (what is gone is in the undo log or was an unknown directory: `makeRoomF_moved`, `prepare_undoable`) -/
theorem prepare_failure_leaves_nothing (vd vf : Path → Bool) (oldCreated : List Path) (fa : Option Nat) (fuel : Nat)
    (fs : FS) (bk : Backups.BK) (target : Path) (dirs : List Path) (hwf : TreeWF fs)
    (hfail : (PrepareF.prepare vd vf oldCreated fa fuel fs bk target dirs).kind ≠ .ok) :
    ∀ q, (PrepareF.prepare vd vf oldCreated fa fuel fs bk target dirs).st.fs.get q ≠ none →
      (PrepareF.prepare vd vf oldCreated fa fuel fs bk target dirs).st.fs.get q = fs.get q := by
  have hmoved : ∀ (c : C), MakeRoom.Moved vd vf target { fs := fs, bk := bk } c.st →
      ∀ q, c.st.fs.get q ≠ none → c.st.fs.get q = fs.get q := by
    intro c hm q hq
    rcases hm.tree q with h | ⟨h, _⟩
    · exact h
    · exact absurd h hq
  refine prepare_elim vd vf oldCreated fa fuel fs bk target dirs
    (fun o => o.kind ≠ .ok → ∀ q, o.st.fs.get q ≠ none → o.st.fs.get q = fs.get q) (fun _ _ _ _ _ => rfl)
    (fun c _ _ hm _ => hmoved c (MakeRoomF.makeRoomF_moved vd vf fa fuel _ target c (Or.inr hm)))
    (fun st1 n1 hfirst => ⟨fun _ _ hk => absurd rfl hk, fun out hl _ => ?_⟩) hfail
  -- the second phase on top of a well-formed tree that has only lost entries
  have hfirst' : TreeWF st1.fs ∧ ∀ q, st1.fs.get q ≠ none → st1.fs.get q = fs.get q := by
    rcases hfirst with ⟨_, rfl, _⟩ | ⟨_, _, c, hm, rfl, _⟩
    · exact ⟨hwf, fun _ _ => rfl⟩
    · exact ⟨makeRoomF_wf vd vf fa fuel _ c target hwf (Or.inl hm),
        hmoved c (MakeRoomF.makeRoomF_moved vd vf fa fuel _ target c (Or.inl hm))⟩
  intro q hq
  rcases MakeDirsF.loop_error oldCreated fa st1.fs hfirst'.1 dirs n1 { fs := st1.fs, bk := st1.bk } out
    (MakeDirs.Inv.start st1.fs st1.bk) hl q with h | ⟨_, h⟩
  · rw [h]; exact hfirst'.2 q (h ▸ hq)
  · exact absurd h hq

end Rollback
end FB

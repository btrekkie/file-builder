/-
  C05 — completeness of reuse for programs of ARBITRARY nesting in which no call fails: the callee of a `build_file`
  or `subbuild` may call `build_file` / `subbuild` again, to any depth.

  * `replay_run`    REPLAY COMPLETENESS when every call succeeded (`replay_runF` allows calls that raised)
  * `bf_served`, `sb_served`   a call that returned in the first run is served from its record in the second: the
                    look-up hits, the nested records replay (`replay_runF`), the state is adopted
  * `nested_second_run`   the second run invokes no user function and returns the same value

  Hypotheses, all about the first run's record tree: every call succeeded (`okDeepL`), its targets form an
  antichain under "is a prefix of" (no output is a directory of another - the documented obligation) and were absent
  from the tree the first run started on, and the cache/shelf of the second run hold what the first run produced.
-/
import FB.Props.C05NestedFail
import FB.Props.C05Flat
namespace FB
open FS Spec Impl

/-- **replay completeness for arbitrary nesting**: the records of a first run in which every call succeeded are
    accepted again, in order, by a state that looks the same and whose shelf holds the run's outputs — and the
    replay leaves that state looking like the state after the run -/
theorem replay_run (prog : Prog) : ∀ (t : Option Path) (s s' fin : KSt),
    s.old.roots = [] → Same s s' → (∀ f ∈ fnamesDeepL (Impl.run prog t s).2.2, versionOk s' f = true) →
    okDeepL (Impl.run prog t s).2.2 = true →
    Antichain (targetsDeepL (Impl.run prog t s).2.2) →
    (∀ p ∈ targetsDeepL (Impl.run prog t s).2.2, s.sp.fs.get p = none) →
    FirstKeeps (Impl.run prog t s).2.1 fin →
    (∀ p ∈ targetsDeepL (Impl.run prog t s).2.2, s'.shelf.get p = fin.sp.fs.get p) →
    ∃ s'', replayOps (Impl.run prog t s).2.2 s' = some s'' ∧ Same (Impl.run prog t s).2.1 s'' ∧
      Replayed s' s'' (targetsDeepL (Impl.run prog t s).2.2) :=
  fun t s s' fin h0 hsame hv hok => replay_runF prog t s s' fin h0 hsame hv (okDeepL_noSFL _ hok)

/-- the arguments of the top-level calls compare equal to themselves (true of every sanitised value) -/
def argsRefl : Op → Bool
  | .buildFile _ _ _ a k _ _ _ _ _ _ => isEqual a a && isEqual k k
  | _ => true

/-- **a `build_file` call that returned in the first run is served in the second.**  `(r1, e1, ops1)` is the run of
    its function in the first run.  In a state `s'` that looks like the state `s` the call started in, whose cache holds
    the call's record and whose shelf holds the outputs of the call and of the calls nested in it as they are at the
    end of the first run (`fin`), the second run does the same set-up, the look-up hits (the nested records replay, by
    `replay_runF`), and the run goes on in a state `e'` that looks like the state after the call.  Apart from the
    tree, `e'` differs from `s'` only by the leftovers that were used up or cleared away. -/
theorem bf_served (body : Prog) (k : CallRes → Prog) (t : Option Path) (s s' fin : KSt) (path : Path) (cmp : Cmp)
    (fname : String) (args kwargs : Json) (made : List Path) (j : Json) (r1 : CallRes) (e1 : KSt) (ops1 : List Op)
    (hb : Impl.run body (some path)
      (missStart (afterSetup s (setupState s.sp path made) path made) path ⟨fname, some path, args, kwargs⟩) = (r1, e1, ops1))
    (h0 : s.old.roots = []) (hsame : Same s s') (hsetup : bfSetup s.sp path = .ok (setupState s.sp path made, made))
    (hj : (bfFinish e1.sp path made r1).1 = .ok j)
    (hv : ∀ f ∈ fname :: fnamesDeepL ops1, versionOk s' f = true) (hns : noSFL ops1 = true)
    (hc : cachedIn s'.old (execFileOp path cmp fname args kwargs ops1 r1 (bfFinish e1.sp path made r1).1
        (withSp e1 (bfFinish e1.sp path made r1).2)) ∧
      argsRefl (execFileOp path cmp fname args kwargs ops1 r1 (bfFinish e1.sp path made r1).1
        (withSp e1 (bfFinish e1.sp path made r1).2)) = true)
    (hanti : Antichain (targetsDeepL ops1 ++ [path]))
    (habs : ∀ p ∈ targetsDeepL ops1 ++ [path], s.sp.fs.get p = none)
    (hfin3 : FirstKeeps (withSp e1 (bfFinish e1.sp path made r1).2) fin)
    (hsup : ∀ p ∈ targetsDeepL ops1 ++ [path], s'.shelf.get p = fin.sp.fs.get p) :
    ∃ (e' : KSt) (op : Op),
      Impl.run (.buildFile path cmp fname args kwargs body k) t s' =
        (let rest := Impl.run (k (.ok j)) t e'
         (rest.1, rest.2.1, op :: rest.2.2)) ∧
      Same (withSp e1 (bfFinish e1.sp path made r1).2) e' ∧
      e'.old = s'.old ∧ e'.newVersions = s'.newVersions ∧ e'.sp.invLog = s'.sp.invLog ∧ e'.sp.pending = s'.sp.pending ∧
      ∀ q, (∀ p ∈ targetsDeepL ops1, ¬ q <+: p) → ¬ q <+: path → ¬ path <+: q → e'.shelf.get q = s'.shelf.get q := by
  obtain ⟨hpne, hmade, hpm, _⟩ := bfSetup_ok_made _ _ _ _ hsetup
  have hsub_path : ∀ p ∈ targetsDeepL ops1, p ≠ path ∧ ¬ p <+: path ∧ ¬ path <+: p :=
    fun p hp => Antichain.ne_of_mem_append hanti hp (List.mem_singleton.mpr rfl)
  -- the first run of the function
  have hkb : FirstKeeps _ e1 := run_keeps_eq hb h0 hsame.ff hsame.fsb
  obtain ⟨hmk, hfs1⟩ := setupState_fs_absent s.sp path made hpm (habs path (by simp))
  have hpath_out : e1.sp.fs.get path = none := run_absent_eq hb path h0 hsame.ff hsame.fsb
    (by show (setupState s.sp path made).fs.get path = none; rw [hfs1]; exact hmk) (fun p hp => (hsub_path p hp).2.2)
  obtain ⟨c, m, _, _, hfinOk⟩ := bfFinish_ok_inv e1.sp path made r1 j hj
  obtain ⟨_, h31, h32⟩ := hkb.clean_after h0 path made r1
  have hfin2 : FirstKeeps e1 fin := (FirstKeeps.of_finish e1 path made r1 hpath_out h31 h32).trans hfin3
  -- the file the call wrote is still there at the end of the first run, so it is on the shelf
  have hpath_fin : fin.sp.fs.get path = some (.file c m) :=
    hfin3.files path c m (by show (bfFinish _ path made r1).2.fs.get path = _; rw [hfinOk]; exact get_set_self _ _ _ hpne)
      (by show path ∈ (bfFinish _ path made r1).2.claimedFiles; rw [bfFinish_claimed]; exact hkb.claimed path (List.mem_cons_self ..))
  have hshelf1 : ∀ q, ¬ path <+: q ∨ q = path → ¬ q <+: path ∨ q = path →
      (afterSetup s' (setupState s'.sp path made) path made).shelf.get q = s'.shelf.get q :=
    fun q h1 h2 => afterSetup_shelf s' _ path made hmade q h1 h2 hpm
  have hshelf1_path : (afterSetup s' (setupState s'.sp path made) path made).shelf.get path = some (.file c m) :=
    ((hshelf1 path (Or.inr rfl) (Or.inr rfl)).trans (hsup path (by simp))).trans hpath_fin
  -- replay of the nested records inside the look-up
  obtain ⟨s2', hrep2, hsame2, hR2⟩ := (firstRun_of_eq hb ⟨h0, hsame.ff, hsame.fsb⟩).replay
    (afterSetup s' (setupState s'.sp path made) path made) fin ((hsame.setup path made).missStart_left _ _)
    (fun f hf => (versionOk_congr (b := s') rfl rfl f).trans (hv f (List.mem_cons_of_mem _ hf))) hns hanti.left
    (fun p hp => setupState_absent _ _ _ _ (hsub_path p hp).1 (fun hm => (hsub_path p hp).2.1 (hmade p hm)) (habs p (by simp [hp])))
    hfin2
    (fun p hp => (hshelf1 p (Or.inl (hsub_path p hp).2.2) (Or.inl (hsub_path p hp).2.1)).trans (hsup p (by simp [hp])))
  have hshelf2_path : s2'.shelf.get path = some (.file c m) :=
    (hR2.shelf path (fun p hp => (hsub_path p hp).2.2)).trans hshelf1_path
  rw [hj, hfinOk, execFileOp_ok _ _ _ _ _ _ _ _ _ _ _ _ hpne] at hc
  have hargs := hc.2
  simp only [argsRefl, Bool.and_eq_true] at hargs
  have hlook' := lookupFile_hit' (afterSetup s' (setupState s'.sp path made) path made) s2' path cmp fname args kwargs made
    ops1 j (View.cmpResult cmp c m) c c m c m hc.1 (hv fname (List.mem_cons_self ..)) hargs.1 hargs.2 hpne hshelf1_path
    (cmpResult_refl cmp c m) hrep2 hshelf2_path
  refine ⟨adopt s2' path made, _,
    run_buildFile_hit (bfSetup_same hsame path _ made hsetup) hlook',
    by rw [hfinOk]; exact hsame2.adopt path made c m hpne hshelf2_path, hR2.old, hR2.nv, hR2.inv,
    replayOps_pending ops1 (afterSetup s' (setupState s'.sp path made) path made) s2' hrep2, fun q hq1 hq2 hq3 => ?_⟩
  show (s2'.shelf.erase path).get q = _
  rw [get_erase_ne _ _ _ (fun e => hq2 (by rw [e]; exact List.prefix_refl _)), hR2.shelf q hq1]
  exact hshelf1 q (Or.inl hq3) (Or.inl hq2)

/-- **a `subbuild` call that returned in the first run is served in the second** (as `bf_served`; a subbuild has no
    target and no set-up, so the replay of its nested records is all that happens) -/
theorem sb_served (body : Prog) (k : CallRes → Prog) (t : Option Path) (s s' fin : KSt) (fname : String) (args kwargs : Json)
    (j : Json) (e1 : KSt) (ops1 : List Op)
    (hb : Impl.run body none (Impl.subStart (subClaim s (subKey fname args kwargs)) ⟨fname, none, args, kwargs⟩) = (.ok j, e1, ops1))
    (h0 : s.old.roots = []) (hsame : Same s s') (hcl : s.sp.claimedSubs.any (heq (subKey fname args kwargs)) = false)
    (hv : ∀ f ∈ fname :: fnamesDeepL ops1, versionOk s' f = true) (hns : noSFL ops1 = true)
    (hc : cachedIn s'.old (execSubOp fname args kwargs ops1 (.ok j)))
    (hanti : Antichain (targetsDeepL ops1)) (habs : ∀ p ∈ targetsDeepL ops1, s.sp.fs.get p = none)
    (hfin2 : FirstKeeps e1 fin) (hsup : ∀ p ∈ targetsDeepL ops1, s'.shelf.get p = fin.sp.fs.get p) :
    ∃ (e' : KSt) (op : Op),
      Impl.run (.subbuild fname args kwargs body k) t s' =
        (let rest := Impl.run (k (.ok j)) t e'
         (rest.1, rest.2.1, op :: rest.2.2)) ∧
      Same e1 e' ∧ Replayed s' e' (targetsDeepL ops1) ∧ e'.sp.pending = s'.sp.pending := by
  obtain ⟨s2', hrep2, hsame2, hR2⟩ := (firstRun_of_eq hb ⟨h0, hsame.ff, hsame.fsb⟩).replay
    (subClaim s' (subKey fname args kwargs)) fin ((hsame.subClaim _).subStart_left _)
    (fun f hf => (versionOk_congr (b := s') rfl rfl f).trans (hv f (List.mem_cons_of_mem _ hf))) hns hanti habs hfin2 hsup
  have hlook' := lookupSub_hit (subClaim s' (subKey fname args kwargs)) s2' fname args kwargs ops1 j hc
    (hv fname (List.mem_cons_self ..)) hrep2
  exact ⟨s2', _, run_subbuild_hit (by rw [hsame.claimedSubs]; exact hcl) (by simp [hsame.fsb']) hlook',
    hsame2, ⟨hR2.old, hR2.nv, hR2.inv, hR2.shelf⟩, replayOps_pending ops1 (subClaim s' (subKey fname args kwargs)) s2' hrep2⟩

theorem FirstRun.second_run {prog : Prog} {t : Option Path} {s e : KSt} {r : CallRes} {ops : List Op}
    (h : FirstRun prog t s r e ops) : ∀ s' fin : KSt, Same s s' → (∀ f ∈ fnamesDeepL ops, versionOk s' f = true) →
    okDeepL ops = true → (∀ o ∈ ops, cachedIn s'.old o ∧ argsRefl o = true) → Antichain (targetsDeepL ops) →
    (∀ p ∈ targetsDeepL ops, s.sp.fs.get p = none) → FirstKeeps e fin →
    (∀ p ∈ targetsDeepL ops, s'.shelf.get p = fin.sp.fs.get p) →
    (Impl.run prog t s').1 = r ∧ (Impl.run prog t s').2.1.sp.invLog = s'.sp.invLog ∧ Same e (Impl.run prog t s').2.1 ∧
    (Impl.run prog t s').2.1.old = s'.old ∧ (Impl.run prog t s').2.1.newVersions = s'.newVersions := by
  induction h with
  | ret v t s => intro s' fin hsame _ _ _ _ _ _ _; rw [run_ret]; exact ⟨rfl, rfl, hsame, rfl, rfl⟩
  | raise x t s => intro s' fin hsame _ _ _ _ _ _ _; exact ⟨rfl, rfl, hsame, rfl, rfl⟩
  | query q k t s v x hrec _ ih =>
    intro s' fin hsame hv hok hc hanti habs hfin hsup
    have := ih s' fin hsame hv hok (fun o ho => hc o (List.mem_cons_of_mem _ ho)) hanti habs hfin hsup
    rw [Impl.run_query, hsame.visible, hsame.dirSize]
    exact this
  | writeOut b mt k s _ ih =>
    intro s' fin hsame hv hok hc hanti habs hfin hsup
    rw [run_write_none]
    exact ih s' fin hsame hv hok hc hanti habs hfin hsup
  | writeIn b mt k p s _ ih =>
    intro s' fin hsame hv hok hc hanti habs hfin hsup
    rw [run_write_some]
    exact ih _ fin (hsame.of_seen rfl rfl) (fun f hf => (versionOk_congr (b := s') rfl rfl f).trans (hv f hf)) hok hc hanti habs
      hfin hsup
  | bfSetupFail path cmp fname args kwargs body k t s x hsetup _ _ =>
    intro s' fin _ _ hok _ _ _ _ _
    simp [okDeepL, okDeep] at hok
  | bfMiss path cmp fname args kwargs body k t s sp1 made r1 e1 ops1 r e ops3 s1 s3 hs1 hs3 hf hsetup hb hk hf1 hkb hf3 hkr hd1 _ _ ihk =>
    subst hs1 hs3
    intro s' fin hsame hv hok hc hanti habs hfin hsup
    obtain ⟨rfl, _, _, _, _, _⟩ := bfSetup_ok_fields s.sp sp1 path made hsetup
    obtain ⟨_, hmade, _, _⟩ := bfSetup_ok_made _ _ _ _ hsetup
    rw [fnamesDeepL_cons, fnamesDeep_execFileOp] at hv
    rw [targetsDeepL_cons, targetsDeep_execFileOp] at hanti habs hsup
    rw [okDeepL_cons, Bool.and_eq_true] at hok
    obtain ⟨⟨j, hj⟩, hoksubs⟩ := okDeep_execFileOp _ _ _ _ _ _ _ _ _ hok.1
    obtain ⟨_, hrest_path, hrest_sub⟩ := hanti.call
    -- the call is served from its record
    obtain ⟨e', op, hrun', hsame3, hold3, hnv3, hinv3, _, hshelf3⟩ := bf_served body k t s s' fin path cmp fname args kwargs made
      j r1 e1 ops1 hb hf.old hsame hsetup hj (fun f hf => hv f (List.mem_append_left _ hf)) (okDeepL_noSFL _ hoksubs)
      (hc _ (List.mem_cons_self ..)) hanti.left (fun p hp => habs p (List.mem_append_left _ hp))
      (hkr.trans hfin) (fun p hp => hsup p (List.mem_append_left _ hp))
    rw [hrun']
    rw [hj] at ihk
    -- the rest of the run
    obtain ⟨i1, i2, i3, i4, i5⟩ := ihk e' fin hsame3
      (fun f hf => (versionOk_congr hold3 hnv3 f).trans (hv f (List.mem_append_right _ hf))) hok.2
      (fun o ho => by rw [hold3]; exact hc o (List.mem_cons_of_mem _ ho)) hanti.right
      (fun p hp => bfFinish_absent _ _ _ _ _ (hrest_path p hp).1
        (hd1.absent p
          (setupState_absent _ _ _ _ (hrest_path p hp).1 (fun hm => (hrest_path p hp).2.1 (hmade p hm)) (habs p (List.mem_append_right _ hp)))
          (fun p' hp' => (hrest_sub p hp p' hp').1)))
      hfin
      (fun p hp => (hshelf3 p (fun p' hp' => (hrest_sub p hp p' hp').1) (hrest_path p hp).2.1 (hrest_path p hp).2.2).trans
        (hsup p (List.mem_append_right _ hp)))
    exact ⟨i1, i2.trans hinv3, i3, i4.trans hold3, i5.trans hnv3⟩
  | sbDup fname args kwargs body k t s hcl _ _ =>
    intro s' fin _ _ hok _ _ _ _ _
    simp [okDeepL, okDeep] at hok
  | sbMiss fname args kwargs body k t s r1 e1 ops1 r e ops3 s1 hs1 hf hcl hb hk hkb hf3 hkr hd1 _ _ ihk =>
    subst hs1
    intro s' fin hsame hv hok hc hanti habs hfin hsup
    rw [fnamesDeepL_cons, fnamesDeep_execSubOp] at hv
    rw [targetsDeepL_cons, targetsDeep_execSubOp] at hanti habs hsup
    rw [okDeepL_cons, Bool.and_eq_true] at hok
    obtain ⟨⟨j, rfl⟩, hoksubs⟩ := okDeep_execSubOp _ _ _ _ _ hok.1
    obtain ⟨e', op, hrun', hsame2, hR2, _⟩ := sb_served body k t s s' fin fname args kwargs j e1 ops1 hb hf.old hsame hcl
      (fun f hf => hv f (List.mem_append_left _ hf)) (okDeepL_noSFL _ hoksubs) (hc _ (List.mem_cons_self ..)).1 hanti.left
      (fun p hp => habs p (List.mem_append_left _ hp)) (hkr.trans hfin) (fun p hp => hsup p (List.mem_append_left _ hp))
    rw [hrun']
    have hrest_sub : ∀ p ∈ targetsDeepL ops3, ∀ p' ∈ targetsDeepL ops1, ¬ p <+: p' :=
      fun p hp p' hp' => (Antichain.ne_of_mem_append hanti hp' hp).2.2
    obtain ⟨i1, i2, i3, i4, i5⟩ := ihk e' fin hsame2
      (fun f hf => (versionOk_congr hR2.old hR2.nv f).trans (hv f (List.mem_append_right _ hf))) hok.2
      (fun o ho => by rw [hR2.old]; exact hc o (List.mem_cons_of_mem _ ho)) hanti.right
      (fun p hp => hd1.absent p (habs p (List.mem_append_right _ hp)) (hrest_sub p hp)) hfin
      (fun p hp => (hR2.shelf p (hrest_sub p hp)).trans (hsup p (List.mem_append_right _ hp)))
    exact ⟨i1, i2.trans hR2.inv, i3, i4.trans hR2.old, i5.trans hR2.nv⟩

/-- **C05 for arbitrary nesting (no failing call)**: if a first run (empty cache) of ANY program — calls nested to
    any depth — had every call succeed, then a second run of the same program in a state that looks the same,
    whose cache holds the records of the first and whose shelf still holds the outputs as the first build left them,
    invokes NO user function and returns the same value. -/
theorem nested_second_run (prog : Prog) : ∀ (t : Option Path) (s s' fin : KSt),
    s.old.roots = [] → Same s s' → (∀ f ∈ fnamesDeepL (Impl.run prog t s).2.2, versionOk s' f = true) →
    okDeepL (Impl.run prog t s).2.2 = true →
    (∀ o ∈ (Impl.run prog t s).2.2, cachedIn s'.old o ∧ argsRefl o = true) →
    Antichain (targetsDeepL (Impl.run prog t s).2.2) →
    (∀ p ∈ targetsDeepL (Impl.run prog t s).2.2, s.sp.fs.get p = none) →
    FirstKeeps (Impl.run prog t s).2.1 fin →
    (∀ p ∈ targetsDeepL (Impl.run prog t s).2.2, s'.shelf.get p = fin.sp.fs.get p) →
    (Impl.run prog t s').1 = (Impl.run prog t s).1 ∧
    (Impl.run prog t s').2.1.sp.invLog = s'.sp.invLog ∧
    Same (Impl.run prog t s).2.1 (Impl.run prog t s').2.1 ∧
    (Impl.run prog t s').2.1.old = s'.old ∧ (Impl.run prog t s').2.1.newVersions = s'.newVersions :=
  fun t s s' fin h0 hsame => (firstRun prog t s ⟨h0, hsame.ff, hsame.fsb⟩).second_run s' fin hsame

/-! ### non-vacuity: a subbuild whose function calls `build_file` (nesting depth 2); first run from an empty state,
    second run with the records in the cache and the output on the shelf -/

def nRoot : Prog := .subbuild "g" .null .null exRoot (fun _ => .ret .null)
def nOps : List Op := (Impl.run nRoot none fxS).2.2
def nS' : KSt := { sp := { fs := [], cacheFile := ["c"], dirSize := 4096, clock := 99 },
                   old := { buildName := "n", roots := nOps }, shelf := [(["x"], .file "o" 7)] }

theorem n_run : (Impl.run nRoot none fxS).2.2 =
      [.subbuild "g" .null .null [.buildFile ["x"] .hash "f" .null .null [] .null (.str "sha:o") false false "o"] .null false false] ∧
    (Impl.run nRoot none fxS).2.1.sp.fs.get ["x"] = some (.file "o" 7) ∧ (Impl.run nRoot none fxS).2.1.sp.invLog.length = 2 ∧
    (Impl.run nRoot none fxS).2.1.sp.claimedFiles = [["x"]] ∧ (Impl.run nRoot none fxS).2.1.sp.createdDirs = [] ∧
    (Impl.run nRoot none fxS).1 = .ok .null := by
  have h : dirsToMake (visible fxS.sp) fxS.sp.cacheFile fxS.sp.inProg [] = .ok [] := by rw [dirsToMake]; simp
  simp [nRoot, exRoot, exBody, Impl.run, bfSetup, fxS, FS.isDir, FS.get, lookupFile, lookupSub, CacheRec.getFile, CacheRec.getSub, registeredL,
    afterSetup, missStart, liftSp, sanitize, bfFinish, pendingFind, withSp, cmpBuilt, View.cmpResult, setupState, mkdirs,
    FS.isFile, FS.set, FS.erase, clearWay, subClaim, Impl.subStart, Spec.visible] at h ⊢
  rw [h]
  simp [pendingFind, FS.set, FS.erase, FS.get, cmpBuilt, View.cmpResult, withSp]

theorem n_first : (Impl.run nRoot none fxS).2.2 =
      [.subbuild "g" .null .null [.buildFile ["x"] .hash "f" .null .null [] .null (.str "sha:o") false false "o"] .null false false] ∧
    (Impl.run nRoot none fxS).2.1.sp.fs.get ["x"] = some (.file "o" 7) ∧ (Impl.run nRoot none fxS).2.1.sp.invLog.length = 2 :=
  ⟨n_run.1, n_run.2.1, n_run.2.2.1⟩

example : (Impl.run nRoot none nS').2.1.sp.invLog = [] ∧ (Impl.run nRoot none fxS).2.1.sp.invLog.length = 2 := by
  obtain ⟨hops, hfs, hlen⟩ := n_first
  have hkeep := run_keeps nRoot none fxS rfl rfl rfl
  have h := nested_second_run nRoot none fxS nS' (Impl.run nRoot none fxS).2.1 rfl
    ⟨rfl, rfl, rfl, rfl, rfl, rfl, rfl, rfl, rfl, rfl⟩
    (fun f _ => by simp [versionOk, nS', verOf, isEqual])
    (by rw [hops]; simp [okDeepL, okDeep])
    (by rw [hops]; intro o ho; simp at ho; subst ho
        simp [cachedIn, argsRefl, nS', nOps, CacheRec.getSub, hops, registeredL, registered, Op.isSubWith, FB.heq, FB.heqL, subKey, toH, toHL, Num.eq, isEqual])
    (by rw [hops]; simp [targetsDeepL, targetsDeep, Antichain])
    (by rw [hops]; intro p hp; simp [targetsDeepL, targetsDeep] at hp; subst hp; simp [fxS, FS.get])
    (FirstKeeps.refl _ hkeep.ff hkeep.fsb)
    (by
      rw [hops]; intro p hp; simp [targetsDeepL, targetsDeep] at hp; subst hp
      rw [hfs]; simp [nS', FS.get])
  exact ⟨h.2.1, hlen⟩

/-- **C06, the other direction** ("operations that do not depend on it stay cached"): a change of the version of a
    function that occurs nowhere in the record tree of the first run invalidates nothing — the second run still
    invokes no user function.  (`nested_second_run` asks for equal versions only of the functions in `fnamesDeepL`.) -/
theorem C06_unrelated_versions_stay_cached (prog : Prog) (t : Option Path) (s s' fin : KSt)
    (h0 : s.old.roots = []) (hsame : Same s s')
    (hv : ∀ f ∈ fnamesDeepL (Impl.run prog t s).2.2, isEqual (verOf s'.old.versions f) (verOf s'.newVersions f) = true)
    (hok : okDeepL (Impl.run prog t s).2.2 = true)
    (hc : ∀ o ∈ (Impl.run prog t s).2.2, cachedIn s'.old o ∧ argsRefl o = true)
    (hanti : Antichain (targetsDeepL (Impl.run prog t s).2.2))
    (habs : ∀ p ∈ targetsDeepL (Impl.run prog t s).2.2, s.sp.fs.get p = none)
    (hfin : FirstKeeps (Impl.run prog t s).2.1 fin)
    (hsup : ∀ p ∈ targetsDeepL (Impl.run prog t s).2.2, s'.shelf.get p = fin.sp.fs.get p) :
    (Impl.run prog t s').1 = (Impl.run prog t s).1 ∧ (Impl.run prog t s').2.1.sp.invLog = s'.sp.invLog :=
  let h := nested_second_run prog t s s' fin h0 hsame hv hok hc hanti habs hfin hsup
  ⟨h.1, h.2.1⟩

/-- the same second run as above, but the build was given a new version for a function `h` the program never calls -/
def nS'' : KSt := { nS' with old := { nS'.old with versions := [("h", .num (.int 1))] }, newVersions := [("h", .num (.int 2))] }

example : (Impl.run nRoot none nS'').2.1.sp.invLog = [] ∧ versionOk nS'' "h" = false := by
  obtain ⟨hops, hfs, hlen⟩ := n_first
  have hkeep := run_keeps nRoot none fxS rfl rfl rfl
  have h := C06_unrelated_versions_stay_cached nRoot none fxS nS'' (Impl.run nRoot none fxS).2.1 rfl
    ⟨rfl, rfl, rfl, rfl, rfl, rfl, rfl, rfl, rfl, rfl⟩
    (by rw [hops]; intro f hf; simp [fnamesDeepL, fnamesDeep] at hf; rcases hf with rfl | rfl <;> simp [nS'', nS', verOf, isEqual])
    (by rw [hops]; simp [okDeepL, okDeep])
    (by rw [hops]; intro o ho; simp at ho; subst ho
        simp [cachedIn, argsRefl, nS'', nS', nOps, CacheRec.getSub, hops, registeredL, registered, Op.isSubWith, FB.heq, FB.heqL, subKey, toH, toHL, Num.eq, isEqual])
    (by rw [hops]; simp [targetsDeepL, targetsDeep, Antichain])
    (by rw [hops]; intro p hp; simp [targetsDeepL, targetsDeep] at hp; subst hp; simp [fxS, FS.get])
    (FirstKeeps.refl _ hkeep.ff hkeep.fsb)
    (by
      rw [hops]; intro p hp; simp [targetsDeepL, targetsDeep] at hp; subst hp
      rw [hfs]; simp [nS'', nS', FS.get])
  exact ⟨h.2, by simp [versionOk, nS'', nS', verOf, isEqual, Num.eq, Num.key]⟩

end FB

/-
  `_commit` (`FB.Commit`) - how the single physical tree of the Python becomes the virtual tree of the models at the
  end of a build.
  * `commit_frame`: whatever `_commit` changes it removes, and it removes only old outputs the virtual tree does not
    know (never the cache file) and listed directories (C03: nothing foreign is touched).
  * `commit_exact`: if the physical tree is the virtual tree plus (a) regular files at old output paths that the
    virtual tree does not know and (b) directories the virtual tree does not know, each an error-created directory or
    a recorded directory of the previous build, then after `_commit` the physical tree IS the virtual tree (the cache
    file's own path aside): every stale output is gone (C05/C12), no directory of a failed output or of the previous
    build is left behind (C10, C12), everything the build functions could see is untouched (C04).
-/
import FB.Commit
import FB.Props.C02Rollback
import FB.Props.C01Step
namespace FB
namespace Commit
open FS Spec BuildDirs

theorem removeOld_get (vf : Path → Bool) (cf : Path) (oldFiles : List Path) (fs : FS) (q : Path) :
    (removeOld vf cf oldFiles fs).get q =
      if (q ∈ oldFiles ∧ vf q = false ∧ q ≠ cf) ∧ fs.isFile q = true then none else fs.get q := by
  unfold removeOld
  rw [get_eraseFiles]
  refine if_congr (and_congr_left' ?_) rfl rfl
  rw [List.mem_filter, Bool.and_eq_true, Bool.not_eq_true', bne_iff_ne]

/-- **`_commit` only removes, and only old outputs unknown to the virtual tree and listed directories** -/
theorem commit_frame (vf vd : Path → Bool) (cf : Path) (oldFiles oldDirs errDirs : List Path) (fs : FS) (q : Path) :
    (commit vf vd cf oldFiles oldDirs errDirs fs).get q = fs.get q ∨
    ((commit vf vd cf oldFiles oldDirs errDirs fs).get q = none ∧
      ((q ∈ oldFiles ∧ vf q = false ∧ q ≠ cf ∧ ∃ b m, fs.get q = some (.file b m)) ∨
       ((q ∈ errDirs ∨ (q ∈ oldDirs ∧ vd q = false)) ∧ fs.get q = some .dir))) := by
  unfold commit
  have h1 := removeOld_get vf cf oldFiles fs q
  rcases rmEmpty_get (dirsToRemove vd oldDirs errDirs) (removeOld vf cf oldFiles fs) q with h | ⟨hm, hd, hn⟩
  · rw [h, h1]
    by_cases hc : (q ∈ oldFiles ∧ vf q = false ∧ q ≠ cf) ∧ fs.isFile q = true
    · right
      exact ⟨if_pos hc, Or.inl ⟨hc.1.1, hc.1.2.1, hc.1.2.2, isFile_iff.mp hc.2⟩⟩
    · left; exact if_neg hc
  · right
    refine ⟨hn, Or.inr ⟨?_, ?_⟩⟩
    · unfold dirsToRemove at hm
      rw [mem_dedup] at hm
      rcases List.mem_append.mp hm with hm | hm
      · exact Or.inl hm
      · simp only [List.mem_filter, Bool.not_eq_true'] at hm; exact Or.inr hm
    · by_cases hc : (q ∈ oldFiles ∧ vf q = false ∧ q ≠ cf) ∧ fs.isFile q = true
      · rw [h1, if_pos hc] at hd; cases hd
      · rw [h1, if_neg hc] at hd; exact hd

/-- in particular: a foreign file - not an output of the previous build - is never touched, nor is anything the
    virtual tree knows as a regular file, nor the cache file -/
theorem commit_keeps_file (vf vd : Path → Bool) (cf : Path) (oldFiles oldDirs errDirs : List Path) (fs : FS) (q : Path)
    (b : String) (m : Nat) (hq : fs.get q = some (.file b m)) (hk : q ∉ oldFiles ∨ vf q = true ∨ q = cf) :
    (commit vf vd cf oldFiles oldDirs errDirs fs).get q = some (.file b m) := by
  rcases commit_frame vf vd cf oldFiles oldDirs errDirs fs q with h | ⟨_, h | h⟩
  · rw [h, hq]
  · exfalso
    rcases hk with hk | hk | hk
    · exact hk h.1
    · rw [h.2.1] at hk; cases hk
    · exact h.2.2.1 hk
  · rw [hq] at h; cases h.2

/-- **after `_commit` the physical tree is the virtual tree**, at every path that the virtual tree knows or that is
    not held in place by the cache file: a directory above a cache file that exists on disk cannot be removed -/
theorem commit_exact_at (cf : Path) (oldFiles oldDirs errDirs : List Path) (P V : FS)
    (hwfV : TreeWF V)
    (hsub : ∀ q, V.get q ≠ none → P.get q = V.get q)
    (hfiles : ∀ q b m, q ≠ cf → P.get q = some (.file b m) → V.get q = none → q ∈ oldFiles)
    (hdirs : ∀ q, P.get q = some .dir → V.get q = none → q ∈ errDirs ∨ q ∈ oldDirs)
    (herr : ∀ d ∈ errDirs, V.isDir d = false) :
    ∀ q, (V.get q ≠ none ∨ ¬ (q <+: cf ∧ P.isFile cf = true)) →
      (commit (fun p => V.isFile p) (fun p => V.isDir p) cf oldFiles oldDirs errDirs P).get q = V.get q := by
  intro q hq
  have hP1 := removeOld_get (fun p => V.isFile p) cf oldFiles P
  have hframe := commit_frame (fun p => V.isFile p) (fun p => V.isDir p) cf oldFiles oldDirs errDirs P q
  cases hV : V.get q with
  | some e =>
    -- known to the virtual tree: untouched
    have hPq : P.get q = some e := by rw [hsub q (by rw [hV]; exact fun h => nomatch h), hV]
    rcases hframe with h | ⟨_, h | h⟩
    · rw [h, hPq]
    · exfalso
      obtain ⟨_, h2, _, b, m, h4⟩ := h
      rw [hPq] at h4
      rw [← Bool.not_eq_true] at h2
      exact h2 (isFile_of_get (hV.trans h4))
    · exfalso
      obtain ⟨h1, h2⟩ := h
      have hVd : V.isDir q = true := isDir_iff.mpr (hV.trans (hPq.symm.trans h2))
      rcases h1 with h1 | h1
      · rw [herr q h1] at hVd; cases hVd
      · rw [h1.2] at hVd; cases hVd
  | none =>
    have hfree : ¬ (q <+: cf ∧ P.isFile cf = true) := hq.resolve_left (fun h => h hV)
    have hVnf : ∀ x, V.get x = none → V.isFile x = false := fun x hx =>
      isFile_false_iff.mpr (fun _ _ e => nomatch hx.symm.trans e)
    cases hPq : P.get q with
    | none =>
      rcases hframe with h | ⟨h, _⟩
      · rw [h, hPq]
      · exact h
    | some e =>
      unfold commit
      cases e with
      | file b m =>
        -- a stale output: removed by the first loop
        have hqcf : q ≠ cf := fun e => hfree ⟨e ▸ List.prefix_refl _, e ▸ isFile_of_get hPq⟩
        apply rmEmpty_none
        rw [hP1]
        exact if_pos ⟨⟨hfiles q b m hqcf hPq hV, hVnf q hV, hqcf⟩, isFile_of_get hPq⟩
      | dir =>
        -- a directory the virtual tree does not know: it holds only such directories once the stale outputs are gone
        apply Rollback.rmEmpty_removes (fun d => P.get d = some .dir ∧ V.get d = none ∧ ¬ (d <+: cf ∧ P.isFile cf = true))
        · intro d hd
          refine ⟨fun e => ?_, Or.inr ?_⟩
          · have h2 := hd.2.1; rw [e, get_nil] at h2; cases h2
          · rw [hP1, if_neg, hd.1]
            intro hc
            obtain ⟨c, m, hg⟩ := isFile_iff.mp hc.2
            rw [hd.1] at hg; cases hg
        · intro d hd n hn
          have hVn : V.get (d ++ [n]) = none := by
            by_contra hc
            have := hwfV (d ++ [n]) (List.append_ne_nil_of_right_ne_nil _ (List.cons_ne_nil n [])) hc
            rw [List.dropLast_concat, isDir_iff, hd.2.1] at this; cases this
          have hfreen : ¬ (d ++ [n] <+: cf ∧ P.isFile cf = true) :=
            fun hc => hd.2.2 ⟨(List.prefix_append d [n]).trans hc.1, hc.2⟩
          cases hPn : P.get (d ++ [n]) with
          | none => rw [hP1, hPn, ite_self] at hn; exact absurd rfl hn
          | some e =>
            cases e with
            | dir => exact ⟨rfl, hVn, hfreen⟩
            | file b m =>
              -- a regular file below `d`: not the cache file, so a stale output, and the first loop removed it
              have hcfn : d ++ [n] ≠ cf := fun e => hfreen ⟨e ▸ List.prefix_refl _, e ▸ isFile_of_get hPn⟩
              rw [hP1, if_pos ⟨⟨hfiles _ b m hcfn hPn hVn, hVnf _ hVn, hcfn⟩, isFile_of_get hPn⟩] at hn
              exact absurd rfl hn
        · intro d hd _
          unfold dirsToRemove
          rw [mem_dedup]
          rcases hdirs d hd.1 hd.2.1 with h | h
          · exact List.mem_append_left _ h
          · have hVd : V.isDir d = false := isDir_false_iff.mpr (by rw [hd.2.1]; exact fun e => nomatch e)
            exact List.mem_append_right _ (List.mem_filter.mpr ⟨h, by show (!V.isDir d) = true; rw [hVd]; rfl⟩)
        · exact ⟨hPq, hV, hfree⟩

/-- when the cache file, if it exists, lies in a directory of the virtual tree, that is every path but the cache file's -/
theorem commit_exact (cf : Path) (oldFiles oldDirs errDirs : List Path) (P V : FS)
    (hwfV : TreeWF V)
    (hsub : ∀ q, V.get q ≠ none → P.get q = V.get q)
    (hfiles : ∀ q b m, q ≠ cf → P.get q = some (.file b m) → V.get q = none → q ∈ oldFiles)
    (hdirs : ∀ q, P.get q = some .dir → V.get q = none → q ∈ errDirs ∨ q ∈ oldDirs)
    (herr : ∀ d ∈ errDirs, V.isDir d = false)
    (hcf : P.get cf ≠ none → V.isDir cf.dropLast = true) :
    ∀ q, q ≠ cf → (commit (fun p => V.isFile p) (fun p => V.isDir p) cf oldFiles oldDirs errDirs P).get q = V.get q := by
  intro q hqcf
  refine commit_exact_at cf oldFiles oldDirs errDirs P V hwfV hsub hfiles hdirs herr q ?_
  by_cases hV : V.get q = none
  · -- a proper ancestor of an existing cache file is a directory of the virtual tree
    refine Or.inr fun hc => ?_
    obtain ⟨b, m, hg⟩ := isFile_iff.mp hc.2
    have hpar := hcf (by rw [hg]; exact fun e => nomatch e)
    have hcfne : cf ≠ [] := fun e => by rw [e, get_nil] at hg; cases hg
    have hq' : q <+: cf.dropLast := by
      obtain ⟨t, rfl⟩ := hc.1
      have htne : t ≠ [] := fun e => hqcf (by rw [e, List.append_nil])
      rw [List.dropLast_append_of_ne_nil htne]; exact List.prefix_append _ _
    have hVq : V.isDir q = true := by
      by_cases he : q = cf.dropLast
      · rw [he]; exact hpar
      · exact hwfV.isDir_of_prefix hq' he (by rw [isDir_iff.mp hpar]; exact fun e => nomatch e)
    rw [isDir_iff, hV] at hVq; cases hVq
  · exact Or.inl hV

/-- the same without the assumption on the cache file's directory: when the cache file lies in a directory the virtual
    tree does not list (a directory recorded by the previous build, re-used for the cache file), that directory and its
    ancestors stay - `rmdir` fails on them - and everywhere else the physical tree is the virtual tree -/
theorem commit_exact_general (cf : Path) (oldFiles oldDirs errDirs : List Path) (P V : FS)
    (hwfV : TreeWF V)
    (hsub : ∀ q, V.get q ≠ none → P.get q = V.get q)
    (hfiles : ∀ q b m, q ≠ cf → P.get q = some (.file b m) → V.get q = none → q ∈ oldFiles)
    (hdirs : ∀ q, P.get q = some .dir → V.get q = none → q ∈ errDirs ∨ q ∈ oldDirs)
    (herr : ∀ d ∈ errDirs, V.isDir d = false)
    :
    ∀ q, (V.get q ≠ none ∨ ¬ q <+: cf) → (commit (fun p => V.isFile p) (fun p => V.isDir p) cf oldFiles oldDirs errDirs P).get q = V.get q :=
  fun q hq => commit_exact_at cf oldFiles oldDirs errDirs P V hwfV hsub hfiles hdirs herr q
    (hq.imp_right fun h hc => h hc.1)

/-- the hypotheses of `commit_exact` are met (non-vacuity, for every well-formed virtual tree): the tree on disk is the
    virtual tree plus one stale output `f` of the previous build (a regular file the virtual tree does not know) and one
    empty directory `d` that only the disk knows, recorded by the previous build; `_commit` removes both and leaves
    exactly the virtual tree -/
theorem commit_exact_instance (cf f d : Path) (b : String) (m : Nat) (V : FS) (hwfV : TreeWF V)
    (hf : V.get f = none) (hd : V.get d = none) (hfd : f ≠ d) (hfne : f ≠ []) (hdne : d ≠ [])
    (hcf : V.isDir cf.dropLast = true) :
    ∀ q, q ≠ cf → (commit (fun p => V.isFile p) (fun p => V.isDir p) cf [f] [d] []
      ((V.set f (.file b m)).set d .dir)).get q = V.get q := by
  have hget : ∀ q, q ≠ f → q ≠ d → ((V.set f (.file b m)).set d .dir).get q = V.get q := by
    intro q h1 h2
    rw [get_set_ne _ _ _ _ h2, get_set_ne _ _ _ _ h1]
  have hgf : ((V.set f (.file b m)).set d .dir).get f = some (.file b m) := by
    rw [get_set_ne _ _ _ _ hfd, get_set_self _ _ _ hfne]
  have hgd : ((V.set f (.file b m)).set d .dir).get d = some .dir := get_set_self _ _ _ hdne
  apply commit_exact cf [f] [d] [] _ V hwfV
  · intro q hq
    have h1 : q ≠ f := fun e => hq (e ▸ hf)
    have h2 : q ≠ d := fun e => hq (e ▸ hd)
    exact hget q h1 h2
  · intro q b' m' _ hP hV
    by_cases h1 : q = f
    · simp [h1]
    · by_cases h2 : q = d
      · rw [h2, hgd] at hP; cases hP
      · rw [hget q h1 h2, hV] at hP; cases hP
  · intro q hP hV
    by_cases h2 : q = d
    · right; simp [h2]
    · by_cases h1 : q = f
      · rw [h1, hgf] at hP; cases hP
      · rw [hget q h1 h2, hV] at hP; cases hP
  · intro x hx; cases hx
  · intro _; exact hcf

/-- the new cache file, written just before `_commit`, is left alone by it -/
theorem commit_keeps_cache_file (vf vd : Path → Bool) (cf : Path) (oldFiles oldDirs errDirs : List Path) (fs : FS)
    (b : String) (m : Nat) (h : fs.get cf = some (.file b m)) :
    (commit vf vd cf oldFiles oldDirs errDirs fs).get cf = some (.file b m) :=
  commit_keeps_file vf vd cf oldFiles oldDirs errDirs fs cf b m h (Or.inr (Or.inr rfl))

/-- **the tree on disk after a committed build is the final world of the cache-logic model**: `FB.Impl.buildGo` ends
    with the virtual tree `V` plus the new cache file (`V.write cf token 0`); if the physical tree at that moment is
    `V` plus stale outputs plus directories only the disk knows (the hypotheses of `commit_exact`) and holds the new
    cache file, then after `_commit` it is that world, at every path -/
theorem commit_matches_model_world (cf : Path) (oldFiles oldDirs errDirs : List Path) (P V : FS) (b : String) (m : Nat)
    (hwfV : TreeWF V)
    (hsub : ∀ q, V.get q ≠ none → P.get q = V.get q)
    (hfiles : ∀ q b m, q ≠ cf → P.get q = some (.file b m) → V.get q = none → q ∈ oldFiles)
    (hdirs : ∀ q, P.get q = some .dir → V.get q = none → q ∈ errDirs ∨ q ∈ oldDirs)
    (herr : ∀ d ∈ errDirs, V.isDir d = false)
    (hcfdir : V.isDir cf.dropLast = true)
    (hcache : P.get cf = some (.file b m)) :
    ∀ q, (commit (fun p => V.isFile p) (fun p => V.isDir p) cf oldFiles oldDirs errDirs P).get q = (V.write cf b m).get q := by
  intro q
  have hcfne : cf ≠ [] := by intro e; rw [e, get_nil] at hcache; cases hcache
  by_cases hq : q = cf
  · subst hq
    rw [commit_keeps_cache_file _ _ _ _ _ _ _ b m hcache]
    unfold FS.write
    rw [get_set_self _ _ _ hcfne]
  · rw [commit_exact cf oldFiles oldDirs errDirs P V hwfV hsub hfiles hdirs herr (fun _ => hcfdir) q hq]
    unfold FS.write
    rw [get_set_ne _ _ _ _ hq]

end Commit
end FB

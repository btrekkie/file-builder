/-
  C01 — cache transparency of a whole run.  With any old cache whose records are *valid* (each record
  that can be looked up is one the function it names can produce — `CacheOK`), running a program through
  the cache logic (`Impl.run`: lookups, replays, reuse, re-execution on a miss, any nesting) returns what
  running it from scratch (`Spec.run`) returns, and ends in the same state up to modification times.
-/
import FB.Props.C01
import FB.Props.C03Impl
import FB.Props.C06
namespace FB
open FS Spec

/-- the two states agree on what the running functions have written into their targets (the
    modification times may differ: the clocks of the two semantics are not synchronised) -/
def PendSim (a b : SpecSt) : Prop :=
  ∀ p, (pendingFind a.pending p).map (·.1) = (pendingFind b.pending p).map (·.1)

theorem PendSim.refl (a : SpecSt) : PendSim a a := fun _ => rfl

/-- A from-scratch run changes the pending content of no target but its own, and keeps pending
    content confined to claimed targets. -/
theorem run_pending (prog : Prog) (t : Option Path) (sp : SpecSt)
    (hpc : PendClaimed sp) (htc : ∀ p, t = some p → p ∈ sp.claimedFiles) :
    PendClaimed (run prog t sp).2.1 ∧
    (∀ q, t ≠ some q → pendingFind (run prog t sp).2.1.pending q = pendingFind sp.pending q) := by
  have h := run_keeps_pending prog t sp
  refine ⟨fun q hq => ?_, fun q hne => ?_⟩
  · have hq0 : q ∉ sp.claimedFiles := fun hc => hq (h.1 q hc)
    rw [h.2 q (fun e => hq0 (htc q e)) (.inr (hpc q hq0))]
    exact hpc q hq0
  · by_cases hc : q ∈ sp.claimedFiles
    · exact h.2 q hne (.inl hc)
    · exact h.2 q hne (.inr (hpc q hc))

mutual
/-- re-enacting a record writes nothing into any target -/
theorem replayOp_pending : (o : Op) → (s s' : KSt) → Impl.replayOp o s = some s' → s'.sp.pending = s.sp.pending
  | .simple q ret exc ans, s, s', h => by
    obtain ⟨rfl, _⟩ := replayOp_simple_some _ _ _ _ _ _ h
    rfl
  | .buildFile path cmp fname args kwargs subs ret cmpRes raised sf content, s, s', h => by
    obtain ⟨_, _, _, _, _, _, made, s2, _, _, hs2, hs'⟩ := replayOp_buildFile_some _ _ _ _ _ _ _ _ _ _ _ _ _ h
    have : s2.sp.pending = s.sp.pending := replayOps_pending subs (replayS1 s path made raised) s2 hs2
    subst hs'
    cases raised <;> exact this
  | .subbuild fname args kwargs subs ret raised sf, s, s', h => by
    obtain ⟨_, _, _, hs⟩ := replayOp_subbuild_some _ _ _ _ _ _ _ _ _ h
    exact replayOps_pending subs (Impl.subClaim s (subKey fname args kwargs)) s' hs
theorem replayOps_pending : (os : List Op) → (s s' : KSt) → Impl.replayOps os s = some s' → s'.sp.pending = s.sp.pending
  | [], s, s', h => by cases h; rfl
  | o :: os, s, s', h => by
    obtain ⟨sm, h1, h2⟩ := (replayOps_cons o os s s').mp h
    rw [replayOps_pending os sm s' h2, replayOp_pending o s sm h1]
end

theorem sim_bfFinish {a b : SpecSt} (h : SpecSt.Sim a b) (hp : PendSim a b) (path : Path) (made : List Path)
    (r : CallRes) :
    (bfFinish a path made r).1 = (bfFinish b path made r).1 ∧
    SpecSt.Sim (bfFinish a path made r).2 (bfFinish b path made r).2 ∧
    PendSim (bfFinish a path made r).2 (bfFinish b path made r).2 := by
  have hps : ∀ (x y : SpecSt), x.pending = a.pending.filter (fun x => x.1 ≠ path) →
      y.pending = b.pending.filter (fun x => x.1 ≠ path) → PendSim x y := by
    intro x y hx hy q
    rw [hx, hy, pendingFind_filter, pendingFind_filter]
    split
    · rfl
    · exact hp q
  have hfail := sim_failSt h path made
  cases r with
  | error e =>
    rw [bfFinish_error, bfFinish_error]
    exact ⟨rfl, hfail, hps _ _ rfl rfl⟩
  | ok j =>
    have hpp := hp path
    cases ha : pendingFind a.pending path with
    | none =>
      have hb : pendingFind b.pending path = none := by
        rw [ha] at hpp
        cases hb' : pendingFind b.pending path with
        | none => rfl
        | some x => rw [hb'] at hpp; cases hpp
      rw [bfFinish_notCreated _ _ _ _ ha, bfFinish_notCreated _ _ _ _ hb]
      exact ⟨rfl, hfail, hps _ _ rfl rfl⟩
    | some x =>
      obtain ⟨c, m⟩ := x
      have hb : ∃ m', pendingFind b.pending path = some (c, m') := by
        rw [ha] at hpp
        cases hb' : pendingFind b.pending path with
        | none => rw [hb'] at hpp; cases hpp
        | some y =>
          obtain ⟨c', m'⟩ := y
          rw [hb'] at hpp
          simp at hpp; subst hpp; exact ⟨m', rfl⟩
      obtain ⟨m', hb⟩ := hb
      unfold bfFinish
      simp only [ha, hb]
      refine ⟨trivial, ?_, hps _ _ rfl rfl⟩
      exact ⟨h.fs.set path _ _ (by simp [Entry.sim]), h.cacheFile, h.dirSize, h.claimedFiles, h.claimedSubs,
        by simp [h.inProg], by simp [h.outputs], by simp [h.createdDirs], h.failFiles, h.failSubs⟩

/-- `Reach p c`: running `p` can get to the sub-program `c` (along some answers and results) -/
inductive Reach : Prog → Prog → Prop
  | here (p : Prog) : Reach p p
  | query (q k a c) : Reach (k a) c → Reach (.query q k) c
  | write (b mt k c) : Reach k c → Reach (.write b mt k) c
  | bfBody (path cmp fname args kwargs body k c) : Reach body c →
      Reach (.buildFile path cmp fname args kwargs body k) c
  | bfCont (path cmp fname args kwargs body k r c) : Reach (k r) c →
      Reach (.buildFile path cmp fname args kwargs body k) c
  | sbBody (fname args kwargs body k c) : Reach body c → Reach (.subbuild fname args kwargs body k) c
  | sbCont (fname args kwargs body k r c) : Reach (k r) c → Reach (.subbuild fname args kwargs body k) c

theorem Reach.trans {a b c : Prog} (h1 : Reach a b) (h2 : Reach b c) : Reach a c := by
  induction h1 with
  | here => exact h2
  | query q k a _ _ ih => exact .query q k a _ (ih h2)
  | write b mt k _ _ ih => exact .write b mt k _ (ih h2)
  | bfBody path cmp fname args kwargs body k _ _ ih => exact .bfBody _ _ _ _ _ _ _ _ (ih h2)
  | bfCont path cmp fname args kwargs body k r _ _ ih => exact .bfCont _ _ _ _ _ _ _ r _ (ih h2)
  | sbBody fname args kwargs body k _ _ ih => exact .sbBody _ _ _ _ _ _ (ih h2)
  | sbCont fname args kwargs body k r _ _ ih => exact .sbCont _ _ _ _ _ r _ (ih h2)

/-- no function mentioned in the record trees changed its version -/
def VersionsOk (old : CacheRec) (nv : List (String × Json)) (subs : List Op) : Prop :=
  ∀ f, Op.mentionsL f subs = true → isEqual (verOf old.versions f) (verOf nv f) = true

/-- Validity of the old cache for the program being run: a record that a call of the program can look
    up, whose functions have unchanged versions, is a record the called function can produce ("function
    bodies change only together with their version"; arguments that are JSON-equal are the same
    arguments), and the comparison results recorded in it identify contents (automatic for HASH; the
    user's assumption for METADATA).  The faithfulness clauses speak of any file at all (`fun _ _ _ => True`), not
    of the files of some state: the cache is judged before the state in which it is looked up is known. -/
structure CacheOK (ds : Nat) (old : CacheRec) (nv : List (String × Json)) (prog : Prog) : Prop where
  file : ∀ path cmp fname args kwargs body k, Reach prog (.buildFile path cmp fname args kwargs body k) →
    ∀ p' rcmp rargs rkwargs subs ret cmpRes sf content,
      old.getFile path = some (.buildFile p' rcmp fname rargs rkwargs subs ret cmpRes false sf content) →
      isEqual rargs args = true → isEqual rkwargs kwargs = true →
      isEqual (verOf old.versions fname) (verOf nv fname) = true → VersionsOk old nv subs →
      Follows ds body (some path) subs (.ok ret) (some content) ∧
      FaithfulOps (fun _ _ _ => True) subs ∧
      (∃ m0, cmpRes = View.cmpResult rcmp content m0) ∧
      (∀ b m, isEqual cmpRes (View.cmpResult rcmp b m) = true → b = content)
  sub : ∀ fname args kwargs body k, Reach prog (.subbuild fname args kwargs body k) →
    ∀ f a kk subs ret sf,
      old.getSub (subKey fname args kwargs) = some (.subbuild f a kk subs ret false sf) →
      isEqual (verOf old.versions fname) (verOf nv fname) = true → VersionsOk old nv subs →
      ∃ wb, Follows ds body none subs (.ok ret) wb ∧ FaithfulOps (fun _ _ _ => True) subs

theorem CacheOK.of_eq {ds old nv old' nv'} {p : Prog} (h : CacheOK ds old nv p) (ho : old' = old) (hn : nv' = nv) :
    CacheOK ds old' nv' p := ho ▸ hn ▸ h

theorem CacheOK.of_reach {ds old nv} {p c : Prog} (h : CacheOK ds old nv p) (hr : Reach p c) : CacheOK ds old nv c :=
  ⟨fun path cmp fname args kwargs body k hc => h.file path cmp fname args kwargs body k (hr.trans hc),
   fun fname args kwargs body k hc => h.sub fname args kwargs body k (hr.trans hc)⟩

theorem versionsOk_of_replay (subs : List Op) (s s' : KSt) (hwf : s.WF)
    (h : Impl.replayOps subs s = some s') : VersionsOk s.old s.newVersions subs := by
  intro f hm
  cases hv : Impl.versionOk s f with
  | true => exact hv
  | false =>
    rw [C06_changed_invalidatesL subs s f hwf hv hm] at h; cases h

/-- the final states `sp'` (from scratch) and `s'` (cache logic) of a run that the cache logic started in `s`: they
    agree up to modification times, the hypotheses of `run_refines` hold of them again, and `s'` keeps of `s` what
    `CallKeeps` says -/
structure RunRel (ds : Nat) (sp' : SpecSt) (s s' : KSt) : Prop where
  sim : SpecSt.Sim sp' s'.sp
  pc : PendClaimed sp'
  ps : PendSim sp' s'.sp
  dsz : sp'.dirSize = ds
  ff : sp'.failFiles = []
  fsb : sp'.failSubs = []
  old : s'.old = s.old
  nv : s'.newVersions = s.newVersions
  wf : s'.WF
  claimed : ∀ p ∈ s.sp.claimedFiles, p ∈ s'.sp.claimedFiles
  inProg : s'.sp.inProg = s.sp.inProg

/-- what a call keeps of the state `s` it starts in, once it is over in `s'` -/
def CallKeeps (s s' : KSt) : Prop :=
  s'.old = s.old ∧ s'.newVersions = s.newVersions ∧ (∀ p ∈ s.sp.claimedFiles, p ∈ s'.sp.claimedFiles) ∧
    s'.sp.inProg = s.sp.inProg

theorem RunRel.rebase_and {ds : Nat} {sp' : SpecSt} {s s1 s' : KSt} {P : Prop} (h : P ∧ RunRel ds sp' s1 s')
    (hk : CallKeeps s s1) : P ∧ RunRel ds sp' s s' :=
  ⟨h.1, h.2.sim, h.2.pc, h.2.ps, h.2.dsz, h.2.ff, h.2.fsb, h.2.old.trans hk.1, h.2.nv.trans hk.2.1, h.2.wf,
    fun p hp => h.2.claimed p (hk.2.2.1 p hp), h.2.inProg.trans hk.2.2.2⟩

theorem PendSim.cons {a b : SpecSt} (h : PendSim a b) (p : Path) (c : String) (m m' : Nat) (a' b' : SpecSt)
    (ha : a'.pending = (p, c, m) :: a.pending) (hb : b'.pending = (p, c, m') :: b.pending) : PendSim a' b' := by
  intro q
  rw [ha, hb]
  by_cases hq : p = q
  · subst hq; rw [pendingFind_cons_self, pendingFind_cons_self]; rfl
  · rw [pendingFind_cons_ne _ _ _ _ _ hq, pendingFind_cons_ne _ _ _ _ _ hq]; exact h q

theorem RunRel.pre {ds : Nat} {t : Option Path} {sp' : SpecSt} {s s' : KSt} (h : RunRel ds sp' s s')
    (htc : ∀ p, t = some p → p ∈ s.sp.claimedFiles) : SoundPre ds t sp' s' :=
  ⟨h.sim, h.dsz, h.ff, h.fsb, h.wf, h.pc, fun p hp => h.claimed p (htc p hp)⟩

/-- the two states in which the function of a `build_file` call starts (`l`: the log of the cache logic's state,
    which nothing looks at) -/
theorem SoundPre.setup {ds : Nat} {t : Option Path} {sp : SpecSt} {s : KSt} (pre : SoundPre ds t sp s)
    (hps : PendSim sp s.sp) {path : Path} {made : List Path} {a1 : SpecSt} (inv : Inv)
    (ha : bfSetup sp path = .ok (a1, made)) (hsim1 : SpecSt.Sim a1 (setupState s.sp path made))
    (hpa : a1.pending = sp.pending) (k1 : KSt) (l : List Inv)
    (hk : k1.sp = { setupState s.sp path made with invLog := l }) :
    SoundPre ds (some path) { a1 with invLog := inv :: a1.invLog } k1 ∧
      PendSim { a1 with invLog := inv :: a1.invLog } k1.sp := by
  obtain ⟨rfl, hnclA, -⟩ := bfSetup_ok_fields _ _ _ _ ha
  refine ⟨⟨?_, hsim1.dirSize.trans (pre.sim.dirSize.symm.trans pre.dsz),
    hsim1.failFiles.trans (pre.sim.failFiles.symm.trans pre.ff),
    hsim1.failSubs.trans (pre.sim.failSubs.symm.trans pre.fsb), ?_, ?_, ?_⟩, ?_⟩
  · rw [hk]; exact hsim1.invLog _ l
  · intro p hp
    rw [hk] at hp ⊢
    rcases List.mem_cons.mp hp with rfl | hp
    · exact List.mem_cons_self
    · exact List.mem_cons_of_mem _ (pre.wf p hp)
  · intro q hq
    show pendingFind sp.pending q = none
    exact pre.pc q fun hc => hq (List.mem_cons_of_mem _ hc)
  · intro p hp
    injection hp with hp; subst hp
    rw [hk]; exact List.mem_cons_self
  · intro q
    rw [hk]; exact hps q

/-- what `run_refines` says of the function of a call -/
def BodyRefines (ds : Nat) (body : Prog) : Prop :=
  ∀ (t : Option Path) (sp : SpecSt) (s : KSt), SoundPre ds t sp s → PendSim sp s.sp →
    CacheOK ds s.old s.newVersions body →
    (run body t sp).1 = (Impl.run body t s).1 ∧ RunRel ds (run body t sp).2.1 s (Impl.run body t s).2.1

/-- **one `build_file` call**: whichever way the cache logic goes (refusal, record, execution), the from-scratch
    call has the same outcome and ends in a state `sp3` that agrees with the state `s'` after the call -/
theorem fileCall_refines {ds : Nat} {t : Option Path} {sp : SpecSt} {s s' : KSt} {path : Path} {cmp : Cmp}
    {fname : String} {args kwargs : Json} {body : Prog} {r : CallRes} {op : Op} (k : CallRes → Prog)
    (pre : SoundPre ds t sp s) (hps : PendSim sp s.sp)
    (hok : CacheOK ds s.old s.newVersions (.buildFile path cmp fname args kwargs body k))
    (ihb : BodyRefines ds body) (hcall : Impl.FileCall s path cmp fname args kwargs body r s' op) :
    ∃ sp3, ((run (.buildFile path cmp fname args kwargs body k) t sp).1 = (run (k r) t sp3).1 ∧
        (run (.buildFile path cmp fname args kwargs body k) t sp).2.1 = (run (k r) t sp3).2.1) ∧
      SoundPre ds t sp3 s' ∧ PendSim sp3 s'.sp ∧ CallKeeps s s' := by
  have hokB := hok.of_reach (.bfBody path cmp fname args kwargs body k _ (.here _))
  rcases sim_bfSetup pre.sim path with ⟨e, hea, heb⟩ | ⟨a1, b1, made, ha, hb, hsim1, hpa, -⟩
  · cases hcall with
    | refused e' hs =>
      obtain rfl : e = e' := by rw [heb] at hs; exact Except.error.inj hs
      refine ⟨setupFailState sp path e, by simp only [run, hea]; exact ⟨trivial, trivial⟩,
        ⟨⟨pre.sim.fs, pre.sim.cacheFile, pre.sim.dirSize, pre.sim.claimedFiles, pre.sim.claimedSubs,
            pre.sim.inProg, pre.sim.outputs, pre.sim.createdDirs,
            by simp [setupFailState, Impl.liftSp, pre.sim.failFiles], pre.sim.failSubs⟩,
          pre.dsz, by simp [setupFailState, pre.ff], pre.fsb, pre.wf, pre.pc, pre.tc⟩, hps, rfl, rfl, fun _ h => h, rfl⟩
    | served _ _ _ _ _ _ _ hs => rw [heb] at hs; cases hs
    | executed _ _ _ hs => rw [heb] at hs; cases hs
  · obtain ⟨rfl, hncl, -⟩ := bfSetup_ok_fields _ _ _ _ hb
    have hpath0 : pendingFind sp.pending path = none :=
      pre.pc path (by rw [pre.sim.claimedFiles]; exact hncl)
    have hproj := run_buildFile_proj path cmp fname args kwargs body k t sp a1 _ made ha rfl _ _ _ rfl
    cases hcall with
    | refused e hs => rw [hb] at hs; cases hs
    | served sp1 made' subs ret now content s2 hs hl =>
      obtain ⟨rfl, rfl⟩ : setupState s.sp path made = sp1 ∧ made = made' := by
        rw [hb] at hs; exact Prod.mk.inj (Except.ok.inj hs)
      obtain ⟨p', rcmp, rargs, rkwargs, subs', ret', cmpRes, sf, content', s2', hget, hv, hia, hik, hom, hrep, -,
        hop, rfl⟩ := lookupFile_full _ _ _ _ _ _ _ _ _ hl
      injection hop with _ _ _ _ _ hsubs hret _ _ _ hcontent
      subst hsubs hret hcontent
      obtain ⟨pre1, hps1⟩ := pre.setup hps ⟨fname, some path, args, kwargs⟩ ha hsim1 hpa
        (Impl.afterSetup s (setupState s.sp path made) path made) _ rfl
      have hvok := versionsOk_of_replay subs _ s2' pre1.wf hrep
      obtain ⟨hF, hfa, ⟨m0, rfl⟩, houtF⟩ := hok.file path cmp fname args kwargs body k (.here _) p' rcmp rargs
        rkwargs subs ret cmpRes sf content hget hia hik hv hvok
      obtain ⟨hpne, bb, mm, hshelf, heqq⟩ := outputMatches_shelf _ path rcmp content m0 hom
      obtain rfl : bb = content := houtF bb mm heqq
      obtain ⟨hrb, hsim2, hpc2, hpend2⟩ := replay_sound_pre hF _ _ s2' pre1
        (FaithfulOps.mono (fun _ _ _ _ => trivial) subs hfa) hrep
      obtain ⟨mw, hwr⟩ := (hpend2 path rfl).2 bb rfl
      have k12 := replayOps_keeps subs _ s2' pre1.wf hrep
      have hshelf2 : s2'.shelf.get path = some (.file bb mm) := by
        rw [k12.shelfInProg path List.mem_cons_self]; exact hshelf
      obtain ⟨hfin1, hsim3⟩ := sim_adopt hsim2 path made ret bb mw mm hpne hwr hshelf2
      have hrp := run_pending body (some path) _ pre1.pc (fun p hp => pre1.sim.claimedFiles ▸ pre1.tc p hp)
      have hcl2 : ∀ p ∈ s.sp.claimedFiles, p ∈ (Impl.adopt s2' path made).sp.claimedFiles :=
        fun p hp => k12.claimed p (List.mem_cons_of_mem _ hp)
      have hip2 : (Impl.adopt s2' path made).sp.inProg = s.sp.inProg := by
        show s2'.sp.inProg.erase path = _
        rw [k12.inProg]; exact List.erase_cons_head ..
      rw [hrb, hfin1] at hproj
      refine ⟨_, hproj, ⟨hsim3, by rw [hsim3.dirSize]; show s2'.sp.dirSize = ds; rw [k12.dirSize]; exact pre1.sim.dirSize ▸ pre1.dsz,
          by rw [hsim3.failFiles]; show s2'.sp.failFiles = []; rw [k12.failFiles]; exact pre1.sim.failFiles ▸ pre1.ff,
          by rw [hsim3.failSubs]; show s2'.sp.failSubs = []; rw [k12.failSubs]; exact pre1.sim.failSubs ▸ pre1.fsb,
          fun p hp => hcl2 p (hip2 ▸ hp |> pre.wf p), hpc2.bfFinish path made _, fun p hp => hcl2 p (pre.tc p hp)⟩,
        ?_, k12.old, k12.newVersions, hcl2, hip2⟩
      intro q
      rw [bfFinish_pending, pendingFind_filter]
      show _ = Option.map _ (pendingFind s2'.sp.pending q)
      rw [replayOps_pending subs _ s2' hrep]
      split
      · rename_i e; subst e
        have := hps q; rw [hpath0] at this; exact this
      · rename_i hq
        rw [hrp.2 q (fun e => hq (by injection e with e; exact e.symm))]; exact hps1 q
    | executed sp1 made' out hs hl hout =>
      obtain ⟨rfl, rfl⟩ : setupState s.sp path made = sp1 ∧ made = made' := by
        rw [hb] at hs; exact Prod.mk.inj (Except.ok.inj hs)
      obtain ⟨pre1, hps1⟩ := pre.setup hps ⟨fname, some path, args, kwargs⟩ ha hsim1 hpa
        (Impl.missStart (Impl.afterSetup s (setupState s.sp path made) path made) path
          ⟨fname, some path, args, kwargs⟩) _ rfl
      obtain ⟨hreq, hrel⟩ := ihb (some path) _ _ pre1 hps1 hokB
      rw [hout] at hreq hrel
      generalize run body (some path) { a1 with invLog := ⟨fname, some path, args, kwargs⟩ :: a1.invLog } = rb
        at hproj hreq hrel
      obtain ⟨hfe, hsim3, hps3⟩ := sim_bfFinish hrel.sim hrel.ps path made rb.1
      obtain ⟨hk1, hk2, hk3⟩ := bfFinish_keeps rb.2.1 path made out.1
      rw [hreq] at hfe hsim3 hps3 hproj
      have hcl03 : ∀ p ∈ s.sp.claimedFiles, p ∈ (bfFinish out.2.1.sp path made out.1).2.claimedFiles := by
        intro p hp; rw [bfFinish_claimed]
        exact hrel.claimed p (List.mem_cons_of_mem _ hp)
      have hip3 : (bfFinish out.2.1.sp path made out.1).2.inProg = s.sp.inProg := by
        rw [bfFinish_inProg, hrel.inProg]; exact List.erase_cons_head ..
      rw [hfe] at hproj
      exact ⟨_, hproj, ⟨hsim3, hk1.trans hrel.dsz, hk2.trans hrel.ff, hk3.trans hrel.fsb,
          fun p hp => hcl03 p (pre.wf p (hip3 ▸ hp)), hrel.pc.bfFinish path made _,
          fun p hp => hcl03 p (pre.tc p hp)⟩, hps3, hrel.old, hrel.nv, hcl03, hip3⟩

/-- **one `subbuild` call**, likewise -/
theorem subCall_refines {ds : Nat} {t : Option Path} {sp : SpecSt} {s s' : KSt} {fname : String} {args kwargs : Json}
    {body : Prog} {r : CallRes} {op : Op} (k : CallRes → Prog) (pre : SoundPre ds t sp s) (hps : PendSim sp s.sp)
    (hok : CacheOK ds s.old s.newVersions (.subbuild fname args kwargs body k))
    (ihb : BodyRefines ds body) (hcall : Impl.SubCall s fname args kwargs body r s' op) :
    ∃ sp3, ((run (.subbuild fname args kwargs body k) t sp).1 = (run (k r) t sp3).1 ∧
        (run (.subbuild fname args kwargs body k) t sp).2.1 = (run (k r) t sp3).2.1) ∧
      SoundPre ds t sp3 s' ∧ PendSim sp3 s'.sp ∧ CallKeeps s s' := by
  have hokB := hok.of_reach (.sbBody fname args kwargs body k _ (.here _))
  have hsim1 : SpecSt.Sim (subStart sp fname args kwargs) (Impl.subClaim s (subKey fname args kwargs)).sp :=
    sim_subStart pre.sim fname args kwargs
  have hproj := fun hdup => run_subbuild_proj fname args kwargs body k t sp _
    (by rw [pre.sim.claimedSubs]; exact hdup) pre.fsb rfl _ _ _ rfl
  cases hcall with
  | dup hdup =>
    exact ⟨sp, by simp only [run, pre.sim.claimedSubs, hdup, if_true]; exact ⟨trivial, trivial⟩, pre, hps, rfl, rfl,
      fun _ h => h, rfl⟩
  | fault _ h2 => rw [← pre.sim.failSubs, pre.fsb] at h2; cases h2
  | served subs ret s2 hdup _ hl =>
    obtain ⟨f, a, kk, subs', ret', sf, hget, hv, hrep, hop⟩ := lookupSub_some _ _ _ _ _ _ hl
    injection hop with _ _ _ hsubs hret
    subst hsubs hret
    have pre1 : SoundPre ds none (subStart sp fname args kwargs) (Impl.subClaim s (subKey fname args kwargs)) :=
      ⟨hsim1, pre.dsz, pre.ff, pre.fsb, pre.wf, pre.pc, fun p hp => nomatch hp⟩
    obtain ⟨wb, hF, hfa⟩ := hok.sub fname args kwargs body k (.here _) f a kk subs ret sf hget hv
      (versionsOk_of_replay subs (Impl.subClaim s (subKey fname args kwargs)) s' pre1.wf hrep)
    obtain ⟨hrb, hsim2, hpc2, -⟩ := replay_sound_pre hF _ _ s' pre1
      (FaithfulOps.mono (fun _ _ _ _ => trivial) subs hfa) hrep
    have k12 := replayOps_keeps subs _ s' pre1.wf hrep
    have hrp := run_pending body none (subStart sp fname args kwargs) pre.pc (fun p hp => nomatch hp)
    have hproj := hproj hdup
    rw [hrb] at hproj
    refine ⟨_, hproj, (pre1.next k12 hsim2 hpc2).retarget fun p hp => k12.claimed p (pre.tc p hp), ?_,
      k12.old, k12.newVersions, k12.claimed, k12.inProg⟩
    intro q
    rw [hrp.2 q (by simp), replayOps_pending subs _ s' hrep]; exact hps q
  | executed out hdup _ hl hout =>
    obtain ⟨hreq, hrel⟩ := ihb none (subStart sp fname args kwargs)
      (Impl.subStart (Impl.subClaim s (subKey fname args kwargs)) ⟨fname, none, args, kwargs⟩)
      ⟨hsim1.invLog _ _, pre.dsz, pre.ff, pre.fsb, pre.wf, pre.pc, fun p hp => nomatch hp⟩ hps hokB
    rw [hout] at hreq hrel
    have hproj := hproj hdup
    rw [hreq] at hproj
    exact ⟨_, hproj, hrel.pre pre.tc, hrel.ps, hrel.old, hrel.nv, hrel.claimed, hrel.inProg⟩

theorem run_refines_pre {ds : Nat} (prog : Prog) : ∀ (t : Option Path) (sp : SpecSt) (s : KSt),
    SoundPre ds t sp s → PendSim sp s.sp → CacheOK ds s.old s.newVersions prog →
    (run prog t sp).1 = (Impl.run prog t s).1 ∧ RunRel ds (run prog t sp).2.1 s (Impl.run prog t s).2.1 := by
  induction prog with
  | ret v =>
    intro t sp s pre hps _
    rw [run, Impl.run]
    cases sanitize v <;>
      exact ⟨rfl, pre.sim, pre.pc, hps, pre.dsz, pre.ff, pre.fsb, rfl, rfl, pre.wf, fun _ h => h, rfl⟩
  | raise e =>
    intro t sp s pre hps _
    exact ⟨rfl, pre.sim, pre.pc, hps, pre.dsz, pre.ff, pre.fsb, rfl, rfl, pre.wf, fun _ h => h, rfl⟩
  | query q k ih =>
    intro t sp s pre hps hok
    rw [run, Impl.run_query, View.sim_answer (sim_visible pre.sim), pre.sim.dirSize]
    exact ih _ t sp s pre hps (hok.of_reach (.query q k _ _ (.here _)))
  | write b mt k ih =>
    intro t sp s pre hps hok
    have hok' := hok.of_reach (.write b mt k _ (.here _))
    cases t with
    | none => rw [run, Impl.run]; exact ih none sp s pre hps hok'
    | some p =>
      rw [run, Impl.run]
      have hpcl : p ∈ sp.claimedFiles := by rw [pre.sim.claimedFiles]; exact pre.tc p rfl
      have := ih (some p) { sp with pending := (p, b, mt.getD sp.clock) :: sp.pending, clock := sp.clock + 1 }
        (Impl.liftSp s fun sp => { sp with pending := (p, b, mt.getD sp.clock) :: sp.pending, clock := sp.clock + 1 })
        ⟨pre.sim.pending _ _ _ _, pre.dsz, pre.ff, pre.fsb, pre.wf, pre.pc.write hpcl b _ _, pre.tc⟩
        (hps.cons p b _ _ _ _ rfl rfl) hok'
      exact RunRel.rebase_and this ⟨rfl, rfl, fun _ h => h, rfl⟩
  | buildFile path cmp fname args kwargs body k ihb ihk =>
    intro t sp s pre hps hok
    obtain ⟨r, s', op, hcall, hrun⟩ := Impl.run_buildFile_call s path cmp fname args kwargs body
    obtain ⟨sp3, hproj, pre3, hps3, hk⟩ := fileCall_refines k pre hps hok ihb hcall
    rw [hrun, hproj.1, hproj.2]
    exact RunRel.rebase_and (ihk r t sp3 s' pre3 hps3
      ((hok.of_reach (.bfCont path cmp fname args kwargs body k r _ (.here _))).of_eq hk.1 hk.2.1)) hk
  | subbuild fname args kwargs body k ihb ihk =>
    intro t sp s pre hps hok
    obtain ⟨r, s', op, hcall, hrun⟩ := Impl.run_subbuild_call s fname args kwargs body
    obtain ⟨sp3, hproj, pre3, hps3, hk⟩ := subCall_refines k pre hps hok ihb hcall
    rw [hrun, hproj.1, hproj.2]
    exact RunRel.rebase_and (ihk r t sp3 s' pre3 hps3
      ((hok.of_reach (.sbCont fname args kwargs body k r _ (.here _))).of_eq hk.1 hk.2.1)) hk

/-- **C01, cache transparency of a run.**  For every program, every target, every pair of states that
    agree up to modification times, every old cache that is valid for the program: the cache logic
    returns what the from-scratch semantics returns, and the final states agree up to modification
    times. -/
theorem run_refines {ds : Nat} (prog : Prog) : ∀ (t : Option Path) (sp : SpecSt) (s : KSt),
    SpecSt.Sim sp s.sp → sp.dirSize = ds → sp.failFiles = [] → sp.failSubs = [] → s.WF →
    PendClaimed sp → PendSim sp s.sp → (∀ p, t = some p → p ∈ s.sp.claimedFiles) →
    CacheOK ds s.old s.newVersions prog →
    (run prog t sp).1 = (Impl.run prog t s).1 ∧ RunRel ds (run prog t sp).2.1 s (Impl.run prog t s).2.1 :=
  fun t sp s h1 h2 h3 h4 h5 h6 h7 h8 => run_refines_pre prog t sp s ⟨h1, h2, h3, h4, h5, h6, h8⟩ h7

end FB

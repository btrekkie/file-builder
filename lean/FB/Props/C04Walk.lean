/-
  C04 for `walk` (`View.walk`): what it reports is what `list_dir`, `is_dir` and `is_file` say, directory by
  directory, and the two traversal orders differ only in the order of the entries.
-/
import FB.Props.C04
import Mathlib.Data.List.Perm.Basic
namespace FB
open FS View

/-- what `walk` reports for the directory `x` -/
def walkEntryOf (fs : FS) (x : Path) : Json :=
  .tup [.str (renderPath x),
        strArr ((names fs x).filter (fun n => !fs.isFile (x ++ [n]) && fs.isDir (x ++ [n]))),
        strArr ((names fs x).filter (fun n => fs.isFile (x ++ [n])))]

theorem walkAux_entries : ∀ (fuel : Nat) (fs : FS) (d : Path) (td : Bool) (j : Json), j ∈ walkAux fuel fs d td →
    ∃ x, j = walkEntryOf fs x ∧ d <+: x ∧ (x = d ∨ fs.isDir x = true) := by
  intro fuel
  induction fuel with
  | zero => intro fs d td j hj; simp [walkAux] at hj
  | succ n ih =>
    intro fs d td j hj
    simp only [walkAux] at hj
    have hcases : j = walkEntryOf fs d ∨ j ∈ ((names fs d).filter (fun n => !fs.isFile (d ++ [n]) && fs.isDir (d ++ [n]))).flatMap
        (fun m => walkAux n fs (d ++ [m]) td) := by
      cases td with
      | true => simp only [if_true, List.mem_cons] at hj; exact hj
      | false =>
        simp only [Bool.false_eq_true, if_false, List.mem_append, List.mem_singleton] at hj
        rcases hj with h | h
        · exact Or.inr h
        · exact Or.inl h
    rcases hcases with h | h
    · exact ⟨d, h, List.prefix_refl d, Or.inl rfl⟩
    · obtain ⟨m, hm, hj'⟩ := List.mem_flatMap.mp h
      obtain ⟨x, hx, hpre, hdir⟩ := ih fs (d ++ [m]) td j hj'
      have hmd : fs.isDir (d ++ [m]) = true := by
        have := (List.mem_filter.mp hm).2
        simp only [Bool.and_eq_true] at this
        exact this.2
      refine ⟨x, hx, (List.prefix_append d [m]).trans hpre, Or.inr ?_⟩
      rcases hdir with rfl | h'
      · exact hmd
      · exact h'

/-- the two name lists of an entry: exactly the listed names, each in exactly one of the two -/
theorem walkEntryOf_lists (fs : FS) (x : Path) (n : String) :
    (n ∈ (names fs x).filter (fun n => fs.isFile (x ++ [n])) ↔ n ∈ names fs x ∧ fs.isFile (x ++ [n]) = true) ∧
    (n ∈ (names fs x).filter (fun n => !fs.isFile (x ++ [n]) && fs.isDir (x ++ [n])) ↔ n ∈ names fs x ∧ fs.isDir (x ++ [n]) = true) ∧
    (n ∈ names fs x → (fs.isFile (x ++ [n]) = true ∨ fs.isDir (x ++ [n]) = true)) := by
  refine ⟨by simp [List.mem_filter], ?_, ?_⟩
  · simp only [List.mem_filter, Bool.and_eq_true, Bool.not_eq_true']
    constructor
    · rintro ⟨h1, _, h3⟩; exact ⟨h1, h3⟩
    · rintro ⟨h1, h3⟩
      refine ⟨h1, ?_, h3⟩
      cases hf : fs.isFile (x ++ [n]) with
      | false => rfl
      | true => exact absurd ⟨hf, h3⟩ (C04_not_both fs (x ++ [n]))
  · intro h
    have := (List.mem_filter.mp h).2
    simpa [View.exists_] using this

/-- the order (`top_down`) changes the order of the entries only -/
theorem walkAux_perm : ∀ (fuel : Nat) (fs : FS) (d : Path), (walkAux fuel fs d true).Perm (walkAux fuel fs d false) := by
  intro fuel
  induction fuel with
  | zero => intro fs d; simp [walkAux]
  | succ n ih =>
    intro fs d
    simp only [walkAux, if_true, Bool.false_eq_true, if_false]
    have hb : ∀ (l : List String), (l.flatMap (fun m => walkAux n fs (d ++ [m]) true)).Perm (l.flatMap (fun m => walkAux n fs (d ++ [m]) false)) := by
      intro l
      induction l with
      | nil => simp
      | cons a r ihr => simp only [List.flatMap_cons]; exact (ih fs (d ++ [a])).append ihr
    exact ((List.perm_cons _).mpr (hb _)).trans (List.perm_append_singleton _ _).symm

/-- top-down and bottom-up `walk` report the same entries, in a different order -/
theorem C04_walk_order (fs : FS) (d : Path) : (walk fs d true).Perm (walk fs d false) := by
  unfold walk
  split
  · exact walkAux_perm _ fs d
  · exact List.Perm.refl _

/-- **C04, `walk` agrees with `list_dir` / `is_dir` / `is_file` recursively**: every entry `walk(d)` reports is the
    entry of a directory `x` at or below `d` that is reached through directories only, and its two name lists are the
    names `list_dir(x)` reports, split by `is_dir` / `is_file` -/
theorem C04_walk_consistent (fs : FS) (d : Path) (td : Bool) (j : Json) (hj : j ∈ walk fs d td) :
    ∃ x, j = walkEntryOf fs x ∧ d <+: x ∧ fs.isDir x = true := by
  unfold walk at hj
  split at hj
  · rename_i hd
    obtain ⟨x, h1, h2, h3⟩ := walkAux_entries _ fs d td j hj
    refine ⟨x, h1, h2, ?_⟩
    rcases h3 with rfl | h
    · exact hd
    · exact h
  · cases hj

theorem names_of_isDir (fs : FS) (d : Path) (n : String) (hd : fs.isDir d = true) (h : fs.isDir (d ++ [n]) = true) :
    n ∈ names fs d := by
  have hl : View.listDir fs d = .ok (names fs d) := by simp [View.listDir, hd]
  exact (C04_listDir_iff fs d _ hl n).mpr (by simp [View.exists_, h])

/-- **`walk` misses nothing**: every directory below `d` that is reached through directories (within the depth bound of
    the model) has its entry -/
theorem walkAux_complete : ∀ (fuel : Nat) (fs : FS) (d : Path) (td : Bool) (rest : List String),
    rest.length < fuel → (∀ k, k ≤ rest.length → fs.isDir (d ++ rest.take k) = true) →
    walkEntryOf fs (d ++ rest) ∈ walkAux fuel fs d td := by
  intro fuel
  induction fuel with
  | zero => intro fs d td rest h; omega
  | succ n ih =>
    intro fs d td rest hlen hdirs
    simp only [walkAux]
    have hmem : walkEntryOf fs (d ++ rest) = walkEntryOf fs d ∨ walkEntryOf fs (d ++ rest) ∈
        ((names fs d).filter (fun m => !fs.isFile (d ++ [m]) && fs.isDir (d ++ [m]))).flatMap (fun m => walkAux n fs (d ++ [m]) td) := by
      cases rest with
      | nil => left; simp
      | cons m r =>
        right
        have hd0 : fs.isDir d = true := by simpa using hdirs 0 (by simp)
        have hd1 : fs.isDir (d ++ [m]) = true := by simpa using hdirs 1 (by simp)
        apply List.mem_flatMap.mpr
        refine ⟨m, ?_, ?_⟩
        · apply List.mem_filter.mpr
          refine ⟨names_of_isDir fs d m hd0 hd1, ?_⟩
          have hnf : fs.isFile (d ++ [m]) = false := by
            cases hf : fs.isFile (d ++ [m]) with
            | false => rfl
            | true => exact absurd ⟨hf, hd1⟩ (C04_not_both fs _)
          simp [hnf, hd1]
        · have := ih fs (d ++ [m]) td r (by simp at hlen; omega) (fun k hk => by
            have := hdirs (k + 1) (by simp; omega)
            simpa [List.take_succ_cons, List.append_assoc] using this)
          simpa [List.append_assoc] using this
    cases td with
    | true =>
      simp only [if_true, List.mem_cons]
      exact hmem
    | false =>
      simp only [Bool.false_eq_true, if_false, List.mem_append, List.mem_singleton]
      rcases hmem with h | h
      · exact Or.inr h
      · exact Or.inl h

end FB

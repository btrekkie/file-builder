/-
  C04 — the memoised scan of `build_dirs.py` decides `Gone`, with reservations in force.  For ANY memo state that
  is sound in the sense of `QInvR`, where `Res` is the set of reserved directories (`hasCount`, closed under
  `dirname` - within the protocol: the directories with a live output below, `hasCount_iff_live`), candidates may be
  reserved-or-gone, and undecided candidates may be alive or reserved: `isRemoved_specR` - the answer of
  `is_removed_norm_case` is `True` exactly for the candidates that are not reserved and are `Gone`, and the memo
  stays sound (`handleDirExists_qinvR`, `checkLoop_specR`, `checkMaybeRemoved_specR`).  `Res = fun _ => False` is
  the phase of a build before the first `build_file` (`init_qinvR`; `BuildDirsGone`).
  What is NOT proved: that `build_file` steps re-establish `QInvR` for the tree they leave.  (The reference for that
  is the eager reference model, not a predicate on the current tree: a directory that was alive when the build
  started stays visible even if the build later overwrites and loses the foreign file that kept it alive.)
-/
import FB.Props.BuildDirsInv
import FB.Props.Gone
namespace FB
namespace BuildDirs
open FS

theorem mem_foldl_add (l acc : List Path) (x : Path) : x ∈ l.foldl add acc ↔ x ∈ acc ∨ x ∈ l := by
  induction l generalizing acc with
  | nil => simp
  | cons y r ih =>
    simp only [List.foldl, ih, mem_add, List.mem_cons]
    constructor
    · rintro ((rfl | h) | h)
      · exact Or.inr (Or.inl rfl)
      · exact Or.inl h
      · exact Or.inr (Or.inr h)
    · rintro (h | rfl | h)
      · exact Or.inl (Or.inr h)
      · exact Or.inl (Or.inl rfl)
      · exact Or.inr h

/-- what a scan may do to the memo: candidates are only decided, never added; what it declares removed was a
    candidate -/
structure Mono (b b' : BD) : Prop where
  mr : ∀ y ∈ b'.maybeRemoved, y ∈ b.maybeRemoved
  rd : ∀ y ∈ b'.removedDirs, y ∈ b.removedDirs ∨ y ∈ b.maybeRemoved

/-- … except that `d` itself may have been added to `removedDirs` -/
structure MonoBut (d : Path) (b b' : BD) : Prop where
  mr : ∀ y ∈ b'.maybeRemoved, y ∈ b.maybeRemoved
  rd : ∀ y ∈ b'.removedDirs, y = d ∨ y ∈ b.removedDirs ∨ y ∈ b.maybeRemoved

theorem Mono.but {b b' : BD} (h : Mono b b') (d : Path) : MonoBut d b b' := ⟨h.mr, fun y hy => Or.inr (h.rd y hy)⟩

theorem Mono.transBut {a b c : BD} {d : Path} (h1 : Mono a b) (h2 : MonoBut d b c) : MonoBut d a c :=
  ⟨fun y hy => h1.mr y (h2.mr y hy), fun y hy => by
    rcases h2.rd y hy with h | h | h
    · exact Or.inl h
    · exact Or.inr (h1.rd y h)
    · exact Or.inr (Or.inr (h1.mr y h))⟩

theorem Mono.refl (b : BD) : Mono b b := ⟨fun _ h => h, fun _ h => Or.inl h⟩

theorem Mono.trans {a b c : BD} (h1 : Mono a b) (h2 : Mono b c) : Mono a c :=
  ⟨fun y hy => h1.mr y (h2.mr y hy), fun y hy => by
    rcases h2.rd y hy with h | h
    · exact h1.rd y h
    · exact Or.inr (h1.mr y h)⟩

/-- the scan of the candidate `d` starts by taking `d` out of the candidates -/
theorem MonoBut.of_discard {b b' : BD} {d : Path} (hd : d ∈ b.maybeRemoved)
    (h : MonoBut d { b with maybeRemoved := discard b.maybeRemoved d } b') : Mono b b' :=
  ⟨fun y hy => ((mem_discard _ _ _).mp (h.mr y hy)).1, fun y hy => by
    rcases h.rd y hy with rfl | h' | h'
    · exact Or.inr hd
    · exact Or.inl h'
    · exact Or.inr ((mem_discard _ _ _).mp h').1⟩

variable (fs : FS) (oldDirs oldFiles : List Path) (Res : Path → Prop)

/-- the caches of `BuildDirs` are sound with respect to `Gone`; the directories in `S` are being scanned right
    now (their verdict is still open) -/
structure QInvR (S : List Path) (b : BD) : Prop where
  counts : ∀ d, hasCount b d = true ↔ Res d
  rf_sub : ∀ p ∈ b.removedFiles, p ∈ oldFiles
  rf_cov : ∀ p ∈ oldFiles, p ∈ b.removedFiles ∨ fs.isDir p = true
  rd : ∀ d ∈ b.removedDirs, d ∈ oldDirs ∧ (Res d ∨ Gone fs oldDirs oldFiles d)
  mr_sub : ∀ d ∈ b.maybeRemoved, d ∈ oldDirs
  cov : ∀ d ∈ oldDirs, d ∉ S → d ∈ b.maybeRemoved ∨ d ∈ b.removedDirs ∨ ¬ Gone fs oldDirs oldFiles d ∨ Res d
  disj : ∀ d ∈ b.maybeRemoved, d ∉ b.removedDirs

variable {fs oldDirs oldFiles Res}

/-- one round of `_handle_dir_exists(x)`: `x` is alive, so it is struck from the three caches -/
theorem QInvR.strike {S : List Path} {b : BD} (h : QInvR fs oldDirs oldFiles Res S b) {x : Path}
    (ha : Anchor fs oldDirs oldFiles x) (e : List Path) :
    QInvR fs oldDirs oldFiles Res S
      { b with removedDirs := discard b.removedDirs x, maybeRemoved := discard b.maybeRemoved x,
               removedFiles := discard b.removedFiles x, existsDirs := e } := by
  refine ⟨h.counts, ?_, ?_, ?_, ?_, ?_, ?_⟩
  · intro p hp; exact h.rf_sub p ((mem_discard _ _ _).mp hp).1
  · intro p hp
    by_cases hpx : p = x
    · right; subst hpx; exact ha.files p (List.prefix_refl _) hp
    · rcases h.rf_cov p hp with h' | h'
      · left; exact (mem_discard _ _ _).mpr ⟨h', hpx⟩
      · right; exact h'
  · intro d hd; exact h.rd d ((mem_discard _ _ _).mp hd).1
  · intro d hd; exact h.mr_sub d ((mem_discard _ _ _).mp hd).1
  · intro d hd hS
    by_cases hdx : d = x
    · right; right; left; subst hdx; exact ha.dirs d (List.prefix_refl _) hd
    · rcases h.cov d hd hS with h' | h' | h'
      · left; exact (mem_discard _ _ _).mpr ⟨h', hdx⟩
      · right; left; exact (mem_discard _ _ _).mpr ⟨h', hdx⟩
      · right; right; exact h'
  · intro d hd hr
    exact h.disj d ((mem_discard _ _ _).mp hd).1 ((mem_discard _ _ _).mp hr).1

variable (fs oldDirs oldFiles Res)

theorem handleDirExists_qinvR (S : List Path) (b : BD) (x : Path) (h : QInvR fs oldDirs oldFiles Res S b)
    (ha : Anchor fs oldDirs oldFiles x) :
    QInvR fs oldDirs oldFiles Res S (handleDirExists b x) ∧
      (∀ y ∈ (handleDirExists b x).maybeRemoved, y ∈ b.maybeRemoved) ∧
      (∀ y ∈ (handleDirExists b x).removedDirs, y ∈ b.removedDirs) := by
  fun_induction handleDirExists b x with
  | case1 b x _ =>
    obtain ⟨e, he⟩ := existsUp_eq b x
    rw [he]
    exact ⟨⟨h.counts, h.rf_sub, h.rf_cov, h.rd, h.mr_sub, h.cov, h.disj⟩, fun y hy => hy, fun y hy => hy⟩
  | case2 b _ b' =>
    exact ⟨h.strike ha _, fun y hy => ((mem_discard _ _ _).mp hy).1, fun y hy => ((mem_discard _ _ _).mp hy).1⟩
  | case3 b x _ b' _ ih =>
    obtain ⟨r1, r2, r3⟩ := ih (h.strike ha _) (ha.dropLast fs oldDirs oldFiles)
    exact ⟨r1, fun y hy => ((mem_discard _ _ _).mp (r2 y hy)).1, fun y hy => ((mem_discard _ _ _).mp (r3 y hy)).1⟩

theorem QInvR.opened {S : List Path} {b : BD} (h : QInvR fs oldDirs oldFiles Res S b) (d : Path) :
    QInvR fs oldDirs oldFiles Res (d :: S) b :=
  ⟨h.counts, h.rf_sub, h.rf_cov, h.rd, h.mr_sub, fun x hx hS => h.cov x hx (fun hm => hS (List.mem_cons_of_mem _ hm)), h.disj⟩

theorem QInvR.closed {S : List Path} {b : BD} {d : Path} (h : QInvR fs oldDirs oldFiles Res (d :: S) b)
    (hd : d ∈ b.maybeRemoved ∨ d ∈ b.removedDirs ∨ ¬ Gone fs oldDirs oldFiles d ∨ Res d) :
    QInvR fs oldDirs oldFiles Res S b :=
  ⟨h.counts, h.rf_sub, h.rf_cov, h.rd, h.mr_sub, fun x hx hS => by
    by_cases hxd : x = d
    · subst hxd; exact hd
    · exact h.cov x hx (by simp [hxd, hS]), h.disj⟩

variable {fs oldDirs oldFiles Res}

/-- the scan of `d` ends with the verdict "alive", reported through `_handle_dir_exists(x)` for an `x` that is
    alive (`Anchor`); the last conjunct is the verdict `false` in the form the scan's result has -/
theorem QInvR.alive {S : List Path} {b : BD} {d : Path} (h : QInvR fs oldDirs oldFiles Res (d :: S) b) {x : Path}
    (ha : Anchor fs oldDirs oldFiles x) (hng : ¬ Gone fs oldDirs oldFiles d) :
    QInvR fs oldDirs oldFiles Res S (handleDirExists b x) ∧ MonoBut d b (handleDirExists b x) ∧
      (false = true ↔ Gone fs oldDirs oldFiles d) := by
  obtain ⟨q1, q2, q3⟩ := handleDirExists_qinvR fs oldDirs oldFiles Res (d :: S) b x h ha
  exact ⟨q1.closed fs oldDirs oldFiles Res (Or.inr (Or.inr (Or.inl hng))), ⟨q2, fun y hy => Or.inr (Or.inl (q3 y hy))⟩,
    (fun hh => nomatch hh), (fun hgd => absurd hgd hng)⟩

/-- the scan of `d` ends with the verdict "gone": `d` goes to `_removed_dirs` -/
theorem QInvR.gone {S : List Path} {b : BD} {d : Path} (h : QInvR fs oldDirs oldFiles Res (d :: S) b)
    (hdo : d ∈ oldDirs) (hdm : d ∉ b.maybeRemoved) (hg : Gone fs oldDirs oldFiles d) :
    QInvR fs oldDirs oldFiles Res S { b with removedDirs := add b.removedDirs d } ∧
      MonoBut d b { b with removedDirs := add b.removedDirs d } ∧ (true = true ↔ Gone fs oldDirs oldFiles d) := by
  refine ⟨⟨h.counts, h.rf_sub, h.rf_cov, ?_, h.mr_sub, ?_, ?_⟩, ⟨fun y hy => hy, fun y hy => ?_⟩, fun _ => hg, fun _ => rfl⟩
  · intro x hx
    rcases (mem_add _ _ _).mp hx with rfl | hx
    · exact ⟨hdo, Or.inr hg⟩
    · exact h.rd x hx
  · intro x hx hxS
    by_cases hxd : x = d
    · right; left; exact (mem_add _ _ _).mpr (Or.inl hxd)
    · rcases h.cov x hx (by simp [hxd, hxS]) with h' | h' | h'
      · exact Or.inl h'
      · exact Or.inr (Or.inl ((mem_add _ _ _).mpr (Or.inr h')))
      · exact Or.inr (Or.inr h')
  · intro x hx hxr
    rcases (mem_add _ _ _).mp hxr with rfl | hxr
    · exact hdm hx
    · exact h.disj x hx hxr
  · rcases (mem_add _ _ _).mp hy with hy | hy
    · exact Or.inl hy
    · exact Or.inr (Or.inl hy)

variable (fs oldDirs oldFiles Res)

/-- the `for subfile in subfiles` loop of `_check_maybe_removed_dir`, given the recursive calls -/
theorem checkLoop_specR (hwf : TreeWF fs) (hv : Valid oldDirs oldFiles) (hup : ∀ x, Res x → Res x.dropLast) (fuel : Nat)
    (hcm : ∀ (S : List Path) (b : BD) (d : Path) (b' : BD) (r : Bool), QInvR fs oldDirs oldFiles Res S b → d ∈ b.maybeRemoved →
      ¬ Res d → (∀ s ∈ S, s.length < d.length) → checkMaybeRemoved fs fuel b d = some (b', r) →
      QInvR fs oldDirs oldFiles Res S b' ∧ Mono b b' ∧ (r = true ↔ Gone fs oldDirs oldFiles d)) :
    ∀ (rest : List String) (S : List Path) (b : BD) (d : Path) (b' : BD) (r : Bool),
      QInvR fs oldDirs oldFiles Res (d :: S) b → d ∈ oldDirs → ¬ Res d → d ∉ b.maybeRemoved →
      (∀ s ∈ S, s.length < d.length) → underFile fs d = false → fs.get d = some .dir →
      (∀ n ∈ rest, n ∈ fs.listdir d) →
      (∀ n ∈ fs.listdir d, n ∉ rest → GoneChild fs oldDirs oldFiles (d ++ [n])) →
      checkLoop fs fuel b d rest = some (b', r) →
      QInvR fs oldDirs oldFiles Res S b' ∧ MonoBut d b b' ∧ (r = true ↔ Gone fs oldDirs oldFiles d) := by
  intro rest
  induction rest with
  | nil =>
    intro S b d b' r h hdo _ hdm _ hu hg _ hdone hrun
    rw [checkLoop] at hrun
    cases hrun
    exact h.gone hdo hdm (Gone.of_children fs oldDirs oldFiles hu hg (fun n hn => hdone n hn (List.not_mem_nil)))
  | cons n rest ih =>
    intro S b d b' r h hdo hnr hdm hS hu hg hrest hdone hrun
    have hnrs : ¬ Res (d ++ [n]) := fun hr => hnr (by simpa using hup _ hr)
    have hex : fs.get (d ++ [n]) ≠ none := (mem_listdir fs d n).mp (hrest n (List.mem_cons_self ..))
    -- once the entry `n` is known to be gone, the loop goes on
    have hnext : ∀ b1, QInvR fs oldDirs oldFiles Res (d :: S) b1 → d ∉ b1.maybeRemoved →
        GoneChild fs oldDirs oldFiles (d ++ [n]) → checkLoop fs fuel b1 d rest = some (b', r) →
        QInvR fs oldDirs oldFiles Res S b' ∧ MonoBut d b1 b' ∧ (r = true ↔ Gone fs oldDirs oldFiles d) := by
      intro b1 h1 hdm1 hgc hrun1
      refine ih S b1 d b' r h1 hdo hnr hdm1 hS hu hg (fun m hm => hrest m (List.mem_cons_of_mem _ hm)) ?_ hrun1
      intro m hm hmr
      by_cases hmn : m = n
      · subst hmn; exact hgc
      · exact hdone m hm (by simp [hmn, hmr])
    -- an entry that is alive keeps `d` alive
    have hnotgone : ¬ GoneChild fs oldDirs oldFiles (d ++ [n]) → ¬ Gone fs oldDirs oldFiles d :=
      fun hng hgd => hng (hgd.children fs oldDirs oldFiles hwf n hex)
    rw [checkLoop] at hrun
    by_cases hA : b.removedDirs.contains (d ++ [n]) = true
    · -- already known to be gone
      obtain ⟨ho, hgs⟩ := h.rd _ (by simpa using hA)
      have hgs := hgs.resolve_left hnrs
      simp only [hA, if_true, hgs.not_file fs oldDirs oldFiles, Bool.false_eq_true, if_false] at hrun
      exact hnext b h hdm (Or.inl ⟨ho, hgs⟩) hrun
    · simp only [hA, Bool.false_eq_true, if_false] at hrun
      by_cases hB : b.removedFiles.contains (d ++ [n]) = true
      · -- an old output: gone unless it has become a directory
        have hof := h.rf_sub _ (by simpa using hB)
        have hnod : (d ++ [n]) ∉ oldDirs := fun hod => hv _ hof _ hod (List.prefix_refl _)
        simp only [hB, if_true] at hrun
        cases hD : fs.isDir (d ++ [n]) with
        | true =>
          simp only [hD, if_true] at hrun
          cases hrun
          have hng : ¬ GoneChild fs oldDirs oldFiles (d ++ [n]) := by
            rintro (⟨h1, _⟩ | ⟨_, _, h3⟩)
            · exact hnod h1
            · rw [hD] at h3; cases h3
          exact h.alive (anchor_of_exists fs oldDirs oldFiles hwf hex hng (fun _ => hD)) (hnotgone hng)
        | false =>
          simp only [hD, Bool.false_eq_true, if_false] at hrun
          exact hnext b h hdm (Or.inr ⟨hnod, hof, hD⟩) hrun
      · simp only [hB, Bool.false_eq_true, if_false] at hrun
        by_cases hC : b.maybeRemoved.contains (d ++ [n]) = true
        · -- an undecided candidate: the recursive call decides
          have hmem : (d ++ [n]) ∈ b.maybeRemoved := by simpa using hC
          simp only [hC, if_true] at hrun
          have hlen : ∀ s ∈ d :: S, s.length < (d ++ [n]).length := by
            intro s hs
            rcases List.mem_cons.mp hs with rfl | hs
            · simp
            · have := hS s hs; simp; omega
          cases hsub : checkMaybeRemoved fs fuel b (d ++ [n]) with
          | none => rw [hsub] at hrun; cases hrun
          | some res =>
            obtain ⟨b1, r1⟩ := res
            obtain ⟨q1, q2, q3⟩ := hcm (d :: S) b (d ++ [n]) b1 r1 h hmem hnrs hlen hsub
            rw [hsub] at hrun
            cases r1 with
            | true =>
              obtain ⟨p1, p2, p3⟩ := hnext b1 q1 (fun hh => hdm (q2.mr d hh)) (Or.inl ⟨h.mr_sub _ hmem, q3.mp rfl⟩) hrun
              exact ⟨p1, q2.transBut p2, p3⟩
            | false =>
              cases hrun
              have hngd : ¬ Gone fs oldDirs oldFiles d := by
                refine hnotgone ?_
                rintro (⟨_, h2⟩ | ⟨h1, _, _⟩)
                · exact nomatch q3.mpr h2
                · exact h1 (h.mr_sub _ hmem)
              exact ⟨q1.closed fs oldDirs oldFiles Res (Or.inr (Or.inr (Or.inl hngd))), q2.but d,
                (fun hh => nomatch hh), (fun hgd => absurd hgd hngd)⟩
        · -- in none of the caches: neither an old output that is still a file nor a candidate that could be gone
          simp only [hC, Bool.false_eq_true, if_false] at hrun
          cases hrun
          have hnS : (d ++ [n]) ∉ d :: S := by
            intro hs
            rcases List.mem_cons.mp hs with h' | h'
            · have := congrArg List.length h'; simp at this
            · have := hS _ h'; simp at this
          have hng : ¬ GoneChild fs oldDirs oldFiles (d ++ [n]) := by
            rintro (⟨h1, h2⟩ | ⟨_, h2, h3⟩)
            · rcases h.cov _ h1 hnS with h' | h' | h' | h'
              · exact hC (by simpa using h')
              · exact hA (by simpa using h')
              · exact h' h2
              · exact hnrs h'
            · rcases h.rf_cov _ h2 with h' | h'
              · exact hB (by simpa using h')
              · rw [h'] at h3; cases h3
          have hngd := hnotgone hng
          cases hD : fs.isDir (d ++ [n]) with
          | true => exact h.alive (anchor_of_exists fs oldDirs oldFiles hwf hex hng (fun _ => hD)) hngd
          | false =>
            refine h.alive (anchor_of_exists fs oldDirs oldFiles hwf (by rw [hg]; simp) ?_ (fun _ => isDir_iff.mpr hg)) hngd
            rintro (⟨_, h2⟩ | ⟨h1, _, _⟩)
            · exact hngd h2
            · exact h1 hdo

/-- **the scan decides `Gone`**: `_check_maybe_removed_dir(d)` -/
theorem checkMaybeRemoved_specR (hwf : TreeWF fs) (hv : Valid oldDirs oldFiles) (hup : ∀ x, Res x → Res x.dropLast) : ∀ (fuel : Nat)
    (S : List Path) (b : BD) (d : Path) (b' : BD) (r : Bool), QInvR fs oldDirs oldFiles Res S b → d ∈ b.maybeRemoved →
      ¬ Res d → (∀ s ∈ S, s.length < d.length) → checkMaybeRemoved fs fuel b d = some (b', r) →
      QInvR fs oldDirs oldFiles Res S b' ∧ Mono b b' ∧ (r = true ↔ Gone fs oldDirs oldFiles d) := by
  intro fuel
  induction fuel with
  | zero => intro S b d b' r _ _ _ _ hrun; rw [checkMaybeRemoved] at hrun; cases hrun
  | succ fuel ih =>
    intro S b d b' r h hdm hnr hS hrun
    rw [checkMaybeRemoved] at hrun
    have hc : b.maybeRemoved.contains d = true := by simpa using hdm
    simp only [hc, Bool.not_true, Bool.false_eq_true, if_false] at hrun
    have hdo := h.mr_sub d hdm
    -- the state during the scan of `d`
    have h1 : QInvR fs oldDirs oldFiles Res (d :: S) { b with maybeRemoved := discard b.maybeRemoved d } := by
      refine ⟨h.counts, h.rf_sub, h.rf_cov, h.rd, ?_, ?_, ?_⟩
      · intro x hx; exact h.mr_sub x ((mem_discard _ _ _).mp hx).1
      · intro x hx hxS
        have hxd : x ≠ d := fun e => hxS (by simp [e])
        rcases h.cov x hx (fun hm => hxS (List.mem_cons_of_mem _ hm)) with h' | h' | h'
        · exact Or.inl ((mem_discard _ _ _).mpr ⟨h', hxd⟩)
        · exact Or.inr (Or.inl h')
        · exact Or.inr (Or.inr h')
      · intro x hx; exact h.disj x ((mem_discard _ _ _).mp hx).1
    have hdm1 : d ∉ discard b.maybeRemoved d := fun hh => ((mem_discard _ _ _).mp hh).2 rfl
    suffices hs : QInvR fs oldDirs oldFiles Res S b' ∧ MonoBut d { b with maybeRemoved := discard b.maybeRemoved d } b' ∧
        (r = true ↔ Gone fs oldDirs oldFiles d) from ⟨hs.1, hs.2.1.of_discard hdm, hs.2.2⟩
    cases hu : underFile fs d with
    | true =>
      -- ENOTDIR: a proper ancestor is a regular file
      simp only [show (List.range d.length).any (fun k => fs.isFile (d.take k)) = true from hu, if_true] at hrun
      cases hrun
      exact h1.alive (anchor_of_underFile fs oldDirs oldFiles hwf hv hdo hu) (fun hgd => by
        rw [hgd.not_underFile fs oldDirs oldFiles] at hu; cases hu)
    | false =>
      simp only [show (List.range d.length).any (fun k => fs.isFile (d.take k)) = false from hu, Bool.false_eq_true, if_false] at hrun
      cases hget : fs.get d with
      | none =>
        rw [hget] at hrun
        cases hrun
        exact h1.gone hdo hdm1 (Gone.absent d hu hget)
      | some e =>
        rw [hget] at hrun
        cases e with
        | file c m =>
          cases hrun
          have hdf : fs.isFile d = true := isFile_iff.mpr ⟨c, m, hget⟩
          have hngd : ¬ Gone fs oldDirs oldFiles d := fun hgd => by
            have := hgd.not_file fs oldDirs oldFiles; rw [hdf] at this; cases this
          refine h1.alive (Anchor.dropLast fs oldDirs oldFiles (anchor_of_exists fs oldDirs oldFiles hwf
            (get_ne_none_of_isFile hdf) ?_ (fun hof => absurd (List.prefix_refl d) (hv d hof d hdo)))) hngd
          rintro (⟨_, h2⟩ | ⟨h1, _, _⟩)
          · exact hngd h2
          · exact h1 hdo
        | dir =>
          exact checkLoop_specR fs oldDirs oldFiles Res hwf hv hup fuel ih (fs.listdir d) S
            { b with maybeRemoved := discard b.maybeRemoved d } d b' r h1 hdo hnr hdm1 hS hu hget
            (fun n hn => hn) (fun n hn hnn => absurd hn hnn) hrun

theorem init_qinvR : QInvR fs oldDirs oldFiles (fun _ => False) [] (init oldDirs oldFiles) := by
  refine ⟨?_, ?_, ?_, ?_, ?_, ?_, ?_⟩
  · intro d; simp [init, hasCount]
  · intro p hp; simpa [init, mem_foldl_add] using hp
  · intro p hp; left; simpa [init, mem_foldl_add] using hp
  · intro d hd; simp [init] at hd
  · intro d hd; simpa [init, mem_foldl_add] using hd
  · intro d hd _; left; simpa [init, mem_foldl_add] using hd
  · intro d _ hr; simp [init] at hr

/-- **`is_removed_norm_case(d)` with reservations in force**: whatever the memo holds, as long as it is sound
    (`QInvR`, with `Res` the set of reserved directories - closed under `dirname`), the answer is `True` exactly for
    the candidate directories that are not reserved and are gone, and the memo stays sound -/
theorem isRemoved_specR (hwf : TreeWF fs) (hv : Valid oldDirs oldFiles) (hup : ∀ x, Res x → Res x.dropLast)
    (b : BD) (d : Path) (b' : BD) (r : Bool)
    (h : QInvR fs oldDirs oldFiles Res [] b) (hrun : isRemoved fs b d = some (b', r)) :
    QInvR fs oldDirs oldFiles Res [] b' ∧ (r = true ↔ ¬ Res d ∧ d ∈ oldDirs ∧ Gone fs oldDirs oldFiles d) := by
  unfold isRemoved at hrun
  by_cases hcnt : hasCount b d = true
  · simp only [hcnt, if_true] at hrun
    cases hrun
    exact ⟨h, (fun hh => nomatch hh), fun hh => absurd ((h.counts d).mp hcnt) hh.1⟩
  · have hnr : ¬ Res d := fun hr => hcnt ((h.counts d).mpr hr)
    simp only [hcnt, Bool.false_eq_true, if_false] at hrun
    by_cases hA : b.removedDirs.contains d = true
    · simp only [hA, if_true] at hrun
      cases hrun
      obtain ⟨h1, h2⟩ := h.rd d (by simpa using hA)
      exact ⟨h, fun _ => ⟨hnr, h1, h2.resolve_left hnr⟩, fun _ => rfl⟩
    · simp only [hA, Bool.false_eq_true, if_false] at hrun
      by_cases hC : b.maybeRemoved.contains d = true
      · simp only [hC, Bool.not_true, Bool.false_eq_true, if_false] at hrun
        have hmem : d ∈ b.maybeRemoved := by simpa using hC
        obtain ⟨q1, _, q3⟩ := checkMaybeRemoved_specR fs oldDirs oldFiles Res hwf hv hup 64 [] b d b' r h hmem hnr (fun s hs => nomatch hs) hrun
        exact ⟨q1, fun hr => ⟨hnr, h.mr_sub d hmem, q3.mp hr⟩, fun hh => q3.mpr hh.2.2⟩
      · simp only [hC, Bool.not_false, if_true] at hrun
        cases hrun
        refine ⟨h, (fun hh => nomatch hh), ?_⟩
        rintro ⟨_, hdo, hg⟩
        rcases h.cov d hdo (fun hh => nomatch hh) with h' | h' | h' | h'
        · exact absurd (by simpa using h') hC
        · exact absurd (by simpa using h') hA
        · exact absurd hg h'
        · exact absurd h' hnr

end BuildDirs
end FB

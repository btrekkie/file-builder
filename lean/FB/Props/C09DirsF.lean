/-
  C09 — the arbitration of concurrently created directories WITH FAILING BUILDS, for arbitrary paths and any number
  of threads, over the unit model of `build_dirs.py` (tied call by call to the real class) and using the proved
  invariant of `created_files.py`: whichever way the `is_dir` / `mkdir` / `started_building_file` /
  `error_building_file` steps interleave, once every thread is through, "created" holds exactly the directories the
  build made that still have a live output below, "created then virtually removed" exactly those that have none —
  `dirs_accounted`.  (Both windows of defect D7 are instances: see the closing examples.)
-/
import FB.ConcDirsF
import FB.Props.BuildDirsGeneral
namespace FB
namespace ConcDirsF
open BuildDirs
open CreatedFiles (properAnc)

/-- what the invariant says of one thread, given where it is (`pc`) and its list (`cds`): it is one of the `n`
    threads once it has left `_dirs_to_make`; what it has made exists; its walk and its list stay above its file
    and hold new directories only -/
structure ThreadOK (p : Nat → Path) (n : Nat) (dirs0 dirs : List Path) (i : Nat) (pc : PC) (cds : List Path) : Prop where
  active : (∀ c a, pc ≠ .looking c a) → i < n
  made : ∀ d, (∃ j, pc = .making j ∧ d ∈ cds.take j) ∨ ((pc = .registered ∨ pc = .failed) ∧ d ∈ cds) → d ∈ dirs
  look : ∀ cur acc, pc = .looking cur acc → cur <+: (p i).dropLast ∧ ∀ d ∈ acc, d <+: (p i).dropLast ∧ d ∉ dirs0
  cdsOK : (∀ cur acc, pc ≠ .looking cur acc) → ∀ d ∈ cds, d <+: (p i).dropLast ∧ d ∉ dirs0

/-- the invariant of every interleaving of the `n` threads, from `dirs0` on disk and an empty `BuildDirs` -/
structure J (p : Nat → Path) (n : Nat) (dirs0 : List Path) (s : St) : Prop where
  thread : ∀ k, ThreadOK p n dirs0 s.dirs k (s.pc k) (s.cds k)
  mono : ∀ d ∈ dirs0, d ∈ s.dirs
  /-- every new directory on disk is accounted for: still being made, recorded as created, or as created then
      virtually removed -/
  acc : ∀ d ∈ s.dirs, d ∉ dirs0 →
    (∃ i j, s.pc i = .making j ∧ d ∈ (s.cds i).take j) ∨ d ∈ s.b.created ∨ d ∈ s.b.errorCreated
  /-- what is recorded in either set was made by a thread that has registered -/
  src : ∀ d, (d ∈ s.b.created ∨ d ∈ s.b.errorCreated) → ∃ i, (s.pc i = .registered ∨ s.pc i = .failed) ∧ d ∈ s.cds i
  /-- a virtually removed directory has no reservation, i.e. (`hasCount_iff_live`) no live output below it -/
  errNoCount : ∀ d ∈ s.b.errorCreated, hasCount s.b d = false
  /-- the reservation counts are those of a `CreatedFiles` in its documented use with the live outputs: this is how
      the invariant of `created_files.py` (`Full`) reaches `BuildDirs` -/
  shadow : ∃ c, Shadow s.b c ∧ CreatedFiles.Full c s.live ∧ c.files = []
  liveIff : ∀ q, q ∈ s.live ↔ ∃ i, s.pc i = .registered ∧ q = p i
  binv : BuildDirs.Inv s.b

theorem j_init (p : Nat → Path) (n : Nat) (dirs0 : List Path) : J p n dirs0 (init p dirs0) := by
  refine ⟨fun k => ⟨fun hk => absurd rfl (hk _ _), ?_, ?_, fun hk => absurd rfl (hk _ _)⟩, fun d hd => hd,
    fun d hd hn => absurd hd hn, ?_, ?_, ⟨{}, rfl, CreatedFiles.full_empty, rfl⟩, ?_, inv_init [] []⟩
  · rintro d (⟨j, h, _⟩ | ⟨h | h, _⟩) <;> cases h
  · intro cur acc h
    cases h
    exact ⟨List.prefix_refl _, fun d hd => by cases hd⟩
  · intro d hd; simp [init] at hd
  · intro d hd; simp [init] at hd
  · intro q; simp [init]

/-- what a step of thread `i` leaves alone (the other threads, the directories there are) and where it takes
    thread `i` -/
structure Frame (s s' : St) (i : Nat) (pc' : PC) (cds' : List Path) : Prop where
  pc : ∀ k, k ≠ i → s'.pc k = s.pc k
  cds : ∀ k, k ≠ i → s'.cds k = s.cds k
  dirs : ∀ d ∈ s.dirs, d ∈ s'.dirs
  pci : s'.pc i = pc'
  cdsi : s'.cds i = cds'

theorem J.threads {p : Nat → Path} {n : Nat} {dirs0 : List Path} {s s' : St} {i : Nat} {pc' : PC} {cds' : List Path}
    (h : J p n dirs0 s) (f : Frame s s' i pc' cds') (ht : ThreadOK p n dirs0 s'.dirs i pc' cds') :
    ∀ k, ThreadOK p n dirs0 s'.dirs k (s'.pc k) (s'.cds k) := by
  intro k
  by_cases hki : k = i
  · subst hki; rw [f.pci, f.cdsi]; exact ht
  · rw [f.pc k hki, f.cds k hki]
    exact ⟨(h.thread k).active, fun d hm => f.dirs d ((h.thread k).made d hm), (h.thread k).look, (h.thread k).cdsOK⟩

theorem Frame.src {s s' : St} {i : Nat} {pc' : PC} {cds' : List Path} (f : Frame s s' i pc' cds') {d : Path}
    (hi : (s.pc i = .registered ∨ s.pc i = .failed) → (pc' = .registered ∨ pc' = .failed) ∧ cds' = s.cds i)
    (h : ∃ k, (s.pc k = .registered ∨ s.pc k = .failed) ∧ d ∈ s.cds k) :
    ∃ k, (s'.pc k = .registered ∨ s'.pc k = .failed) ∧ d ∈ s'.cds k := by
  obtain ⟨k, hk, hd⟩ := h
  by_cases hki : k = i
  · subst hki; exact ⟨k, by rw [f.pci]; exact (hi hk).1, by rw [f.cdsi, (hi hk).2]; exact hd⟩
  · exact ⟨k, by rw [f.pc k hki]; exact hk, by rw [f.cds k hki]; exact hd⟩

theorem Frame.making {s s' : St} {i : Nat} {pc' : PC} {cds' : List Path} (f : Frame s s' i pc' cds') {d : Path}
    (hi : ∀ j, s.pc i = .making j → d ∈ (s.cds i).take j → ∃ j', pc' = .making j' ∧ d ∈ cds'.take j')
    (h : ∃ k j, s.pc k = .making j ∧ d ∈ (s.cds k).take j) : ∃ k j, s'.pc k = .making j ∧ d ∈ (s'.cds k).take j := by
  obtain ⟨k, j, hk, hd⟩ := h
  by_cases hki : k = i
  · subst hki
    obtain ⟨j', hj', hd'⟩ := hi j hk hd
    exact ⟨k, j', by rw [f.pci]; exact hj', by rw [f.cdsi]; exact hd'⟩
  · exact ⟨k, j, by rw [f.pc k hki]; exact hk, by rw [f.cds k hki]; exact hd⟩

theorem Frame.live {s s' : St} {i : Nat} {pc' : PC} {cds' : List Path} (f : Frame s s' i pc' cds') (p : Nat → Path)
    (hl : s'.live = s.live) (hi : pc' = .registered ↔ s.pc i = .registered)
    (h : ∀ q, q ∈ s.live ↔ ∃ k, s.pc k = .registered ∧ q = p k) :
    ∀ q, q ∈ s'.live ↔ ∃ k, s'.pc k = .registered ∧ q = p k := by
  have hiff : ∀ k, s'.pc k = .registered ↔ s.pc k = .registered := fun k => by
    by_cases hki : k = i
    · rw [hki, f.pci]; exact hi
    · rw [f.pc k hki]
  intro q
  rw [hl, h q]
  exact exists_congr fun k => and_congr_left' (hiff k).symm

/-- a step of thread `i` that touches neither `b` nor `live`: the walk, a `mkdir` -/
theorem J.quiet {p : Nat → Path} {n : Nat} {dirs0 : List Path} {s s' : St} {i : Nat} {pc' : PC} {cds' : List Path}
    (h : J p n dirs0 s) (f : Frame s s' i pc' cds') (hb : s'.b = s.b) (hl : s'.live = s.live)
    (hnr : s.pc i ≠ .registered) (hnf : s.pc i ≠ .failed) (hnr' : pc' ≠ .registered)
    (ht : ThreadOK p n dirs0 s'.dirs i pc' cds')
    (hnew : ∀ d ∈ s'.dirs, d ∈ s.dirs ∨ ∃ j, pc' = .making j ∧ d ∈ cds'.take j)
    (hkeep : ∀ j d, s.pc i = .making j → d ∈ (s.cds i).take j → ∃ j', pc' = .making j' ∧ d ∈ cds'.take j') :
    J p n dirs0 s' := by
  refine ⟨h.threads f ht, fun d hd => f.dirs d (h.mono d hd), fun d hd hn => ?_, fun d hd => ?_,
    by rw [hb]; exact h.errNoCount, by rw [hb, hl]; exact h.shadow,
    f.live p hl ⟨fun e => absurd e hnr', fun e => absurd e hnr⟩ h.liveIff, by rw [hb]; exact h.binv⟩
  · rw [hb]
    rcases hnew d hd with hd | ⟨j, hj, hdj⟩
    · exact (h.acc d hd hn).imp (f.making (fun j hj hd => hkeep j d hj hd)) id
    · exact Or.inl ⟨i, j, f.pci.trans hj, by rw [f.cdsi]; exact hdj⟩
  · rw [hb] at hd
    exact f.src (fun hk => (hk.elim hnr hnf).elim) (h.src d hd)

section steps
variable {p : Nat → Path} {n : Nat} {dirs0 : List Path} {s : St} {i : Nat}

theorem J.lookEnd {cur : Path} {acc : List Path} (h : J p n dirs0 s) (hi : i < n) (hpc : s.pc i = .looking cur acc) :
    J p n dirs0 { s with cds := fun k => if k = i then acc else s.cds k,
                         pc := fun k => if k = i then .making 0 else s.pc k } := by
  refine h.quiet ⟨fun k hk => if_neg hk, fun k hk => if_neg hk, fun d hd => hd, if_pos rfl, if_pos rfl⟩ rfl rfl
    (by rw [hpc]; nofun) (by rw [hpc]; nofun) nofun
    ⟨fun _ => hi, ?_, nofun, fun _ => ((h.thread i).look cur acc hpc).2⟩
    (fun d hd => Or.inl hd) (fun j d hj => by rw [hpc] at hj; cases hj)
  rintro d (⟨j, hj, hd⟩ | ⟨hj | hj, _⟩)
  · cases hj; cases hd
  · cases hj
  · cases hj

theorem J.lookOn {cur : Path} {acc : List Path} (h : J p n dirs0 s) (hpc : s.pc i = .looking cur acc)
    (hcur : cur ∉ s.dirs) :
    J p n dirs0 { s with pc := fun k => if k = i then .looking cur.dropLast (cur :: acc) else s.pc k } := by
  obtain ⟨hl1, hl2⟩ := (h.thread i).look cur acc hpc
  refine h.quiet ⟨fun k hk => if_neg hk, fun _ _ => rfl, fun d hd => hd, if_pos rfl, rfl⟩ rfl rfl
    (by rw [hpc]; nofun) (by rw [hpc]; nofun) nofun
    ⟨fun hk => absurd rfl (hk _ _), ?_, ?_, fun hk => absurd rfl (hk _ _)⟩
    (fun d hd => Or.inl hd) (fun j d hj => by rw [hpc] at hj; cases hj)
  · rintro d (⟨j, hj, _⟩ | ⟨hj | hj, _⟩) <;> cases hj
  · intro c a e
    cases e
    refine ⟨(List.dropLast_prefix cur).trans hl1, fun d hd => ?_⟩
    rcases List.mem_cons.mp hd with rfl | hd
    · exact ⟨hl1, fun hh => hcur (h.mono _ hh)⟩
    · exact hl2 d hd

theorem J.mkdir {j : Nat} {d : Path} (h : J p n dirs0 s) (hi : i < n) (hpc : s.pc i = .making j)
    (hget : (s.cds i)[j]? = some d) :
    J p n dirs0 { s with dirs := add s.dirs d, pc := fun k => if k = i then .making (j + 1) else s.pc k } := by
  refine h.quiet ⟨fun k hk => if_neg hk, fun _ _ => rfl, fun x hx => (mem_add _ _ _).mpr (Or.inr hx),
      if_pos rfl, rfl⟩ rfl rfl (by rw [hpc]; nofun) (by rw [hpc]; nofun) nofun
    ⟨fun _ => hi, ?_, nofun, fun _ => (h.thread i).cdsOK (fun c a => by rw [hpc]; nofun)⟩ ?_ ?_
  · rintro x (⟨j', hj, hx⟩ | ⟨hj | hj, _⟩)
    · cases hj
      rw [List.take_add_one, hget] at hx
      rcases List.mem_append.mp hx with hx | hx
      · exact (mem_add _ _ _).mpr (Or.inr ((h.thread i).made x (Or.inl ⟨j, hpc, hx⟩)))
      · exact (mem_add _ _ _).mpr (Or.inl (by simpa using hx))
    · cases hj
    · cases hj
  · intro x hx
    rcases (mem_add _ _ _).mp hx with rfl | hx
    · exact Or.inr ⟨j + 1, rfl, mem_take_succ_of_getElem? hget⟩
    · exact Or.inl hx
  · intro j' x hj hx
    rw [hpc] at hj; cases hj
    exact ⟨j + 1, rfl, List.take_subset_take_left _ (Nat.le_succ _) hx⟩

/-- the file of a thread that is not registered is unrelated to every live file -/
theorem J.unrelated (hanti : ∀ i j, i < n → j < n → i ≠ j → ¬ p i <+: p j) (h : J p n dirs0 s) (hi : i < n)
    (hpc : s.pc i ≠ .registered) {q : Path} (hq : q ∈ s.live) : ¬ p i <+: q ∧ ¬ q <+: p i := by
  obtain ⟨k, hk, rfl⟩ := (h.liveIff q).mp hq
  have hki : k ≠ i := fun e => hpc (e ▸ hk)
  have hkn := (h.thread k).active (fun c a => by rw [hk]; nofun)
  exact ⟨hanti i k hi hkn hki.symm, hanti k i hkn hi hki⟩

/-- thread `i` has made all its directories and runs `started_building_file`.  Its file is unrelated to the live
    ones, so `CreatedFiles.started_full` applies; through `Shadow` the reservations after the call are those of the
    live files (`hasCount_iff_live`), which is the hypothesis of `started_general` -/
theorem J.register {j : Nat} (hp : ∀ i, p i ≠ []) (hanti : ∀ i j, i < n → j < n → i ≠ j → ¬ p i <+: p j)
    (h : J p n dirs0 s) (hi : i < n) (hpc : s.pc i = .making j) (hget : (s.cds i)[j]? = none) :
    J p n dirs0 { s with b := (started s.b (p i) (s.cds i)).1, live := p i :: s.live,
                         pc := fun k => if k = i then .registered else s.pc k } := by
  have hnr : s.pc i ≠ .registered := by rw [hpc]; nofun
  have hcds := (h.thread i).cdsOK (fun c a => by rw [hpc]; nofun)
  have hall : (s.cds i).take j = s.cds i := List.take_of_length_le (List.getElem?_eq_none_iff.mp hget)
  obtain ⟨c, hsh, hfull, hfiles⟩ := h.shadow
  have hunrel := fun q => h.unrelated hanti hi hnr (q := q)
  have hfull' := CreatedFiles.started_full c s.live (p i) hfull (hp i)
    (fun hm => (hunrel _ hm).1 (List.prefix_refl _)) (fun q hq => ⟨fun hh => (hunrel q hq).1 hh.1, fun hh => (hunrel q hq).2 hh.1⟩)
  have hsh' := started_shadow s.b c (p i) (s.cds i) hsh
  have hinv' := started_inv s.b (p i) (s.cds i) h.binv
  have hlive' := hasCount_iff_live _ _ _ hsh' hfull' hinv'.positive
  have hgen := started_general s.b (p i) (s.cds i) (hp i) (fun d hd =>
    (hlive' d).mpr ⟨p i, List.mem_cons_self .., prefix_ne_of_prefix_dropLast (hp i) hd⟩)
  have hlive0 := hasCount_iff_live _ _ _ hsh hfull h.binv.positive
  have f : Frame s { s with b := (started s.b (p i) (s.cds i)).1, live := p i :: s.live,
                            pc := fun k => if k = i then .registered else s.pc k } i .registered (s.cds i) :=
    ⟨fun k hk => if_neg hk, fun _ _ => rfl, fun x hx => hx, if_pos rfl, rfl⟩
  refine ⟨h.threads f ⟨fun _ => hi, ?_, nofun, fun _ => hcds⟩, h.mono, ?_, ?_, ?_, ⟨_, hsh', hfull', ?_⟩, ?_, hinv'⟩
  · rintro x (⟨j', hj, _⟩ | ⟨_, hx⟩)
    · cases hj
    · exact (h.thread i).made x (Or.inl ⟨j, hpc, by rw [hall]; exact hx⟩)
  · intro x hx hn
    rcases h.acc x hx hn with ⟨k, j', hk, hdk⟩ | h' | h'
    · by_cases hki : k = i
      · subst hki
        rw [hpc] at hk; cases hk
        rw [hall] at hdk
        exact Or.inr (Or.inl (hgen.reg x (hcds x hdk).1 (Or.inl hdk)))
      · exact Or.inl ⟨k, j', (f.pc k hki).trans hk, hdk⟩
    · exact Or.inr (Or.inl (hgen.sub x h'))
    · exact Or.inr ((hgen.errGone x h').symm)
  · intro x hx
    have hold : (x ∈ s.b.created ∨ x ∈ s.b.errorCreated) ∨ x ∈ s.cds i := by
      rcases hx with hx | hx
      · rcases hgen.src x hx with h' | ⟨h' | h', _⟩
        · exact Or.inl (Or.inl h')
        · exact Or.inr h'
        · exact Or.inl (Or.inr h')
      · exact Or.inl (Or.inr (hgen.errSub x hx))
    rcases hold with hold | hold
    · exact f.src (fun hk => by rw [hpc] at hk; rcases hk with hk | hk <;> cases hk) (h.src x hold)
    · exact ⟨i, Or.inl (if_pos rfl), hold⟩
  · intro x hx
    have hx0 := hgen.errSub x hx
    cases hc : hasCount (started s.b (p i) (s.cds i)).1 x with
    | false => rfl
    | true =>
      exfalso
      obtain ⟨q, hq, hqa⟩ := (hlive' x).mp hc
      rcases List.mem_cons.mp hq with rfl | hq
      · -- a directory above the new file: it is registered now, not virtually removed
        exact hinv'.disjoint x (hgen.reg x (CreatedFiles.prefix_dropLast_of_properAnc hqa) (Or.inr hx0)) hx
      · have : hasCount s.b x = true := (hlive0 x).mpr ⟨q, hq, hqa⟩
        rw [h.errNoCount x hx0] at this; cases this
  · rw [CreatedFiles.started_files c (p i) hfull.subNodup]; exact hfiles
  · intro q
    constructor
    · intro hq
      rcases List.mem_cons.mp hq with rfl | hq
      · exact ⟨i, if_pos rfl, rfl⟩
      · obtain ⟨k, hk, hqk⟩ := (h.liveIff q).mp hq
        exact ⟨k, (f.pc k (fun e => hnr (e ▸ hk))).trans hk, hqk⟩
    · rintro ⟨k, hk, hqk⟩
      by_cases hki : k = i
      · subst hki; rw [hqk]; exact List.mem_cons_self ..
      · exact List.mem_cons_of_mem _ ((h.liveIff q).mpr ⟨k, (f.pc k hki).symm.trans hk, hqk⟩)

/-- the function of the registered thread `i` raises: `error_building_file` goes through (the reservation is there)
    and undoes it -/
theorem J.fail (hp : ∀ i, p i ≠ []) (hanti : ∀ i j, i < n → j < n → i ≠ j → ¬ p i <+: p j)
    (h : J p n dirs0 s) (hi : i < n) (hpc : s.pc i = .registered) :
    ∃ b', error s.b (p i) = some b' ∧
      J p n dirs0 { s with b := b', live := s.live.erase (p i), pc := fun k => if k = i then .failed else s.pc k } := by
  obtain ⟨c, hsh, hfull, hfiles⟩ := h.shadow
  have hlivei : p i ∈ s.live := (h.liveIff (p i)).mpr ⟨i, hpc, rfl⟩
  obtain ⟨c', hce, hfull', hfiles'⟩ := CreatedFiles.error_full c s.live (p i) hfull hlivei (hp i) (by rw [hfiles]; nofun)
  obtain ⟨b', hbe, hsh'⟩ := error_shadow s.b c c' (p i) hsh hce
  have hgen := error_general s.b b' (p i) hbe
  have hinv' := error_inv s.b b' (p i) h.binv hbe
  have f : Frame s { s with b := b', live := s.live.erase (p i), pc := fun k => if k = i then .failed else s.pc k } i
      .failed (s.cds i) :=
    ⟨fun k hk => if_neg hk, fun _ _ => rfl, fun x hx => hx, if_pos rfl, rfl⟩
  refine ⟨b', hbe, h.threads f ⟨fun _ => hi, ?_, nofun, fun _ => (h.thread i).cdsOK (fun c0 a => by rw [hpc]; nofun)⟩,
    h.mono, ?_, ?_, ?_, ⟨c', hsh', hfull', by rw [hfiles', hfiles]⟩, ?_, hinv'⟩
  · rintro x (⟨j', hj, _⟩ | ⟨_, hx⟩)
    · cases hj
    · exact (h.thread i).made x (Or.inr ⟨Or.inl hpc, hx⟩)
  · intro x hx hn
    rcases h.acc x hx hn with hm | h' | h'
    · exact Or.inl (f.making (fun j' hj => by rw [hpc] at hj; cases hj) hm)
    · rcases hgen.moved x h' with h'' | ⟨h'', _⟩
      · exact Or.inr (Or.inl h'')
      · exact Or.inr (Or.inr h'')
    · exact Or.inr (Or.inr (hgen.errSub x h'))
  · intro x hx
    have hold : x ∈ s.b.created ∨ x ∈ s.b.errorCreated := by
      rcases hx with hx | hx
      · exact Or.inl (hgen.sub x hx)
      · rcases hgen.errSrc x hx with h' | ⟨h', _⟩
        · exact Or.inr h'
        · exact Or.inl h'
    exact f.src (fun _ => ⟨Or.inr rfl, rfl⟩) (h.src x hold)
  · intro x hx
    rcases hgen.errSrc x hx with h' | ⟨_, h'⟩
    · cases hc : hasCount b' x with
      | false => rfl
      | true => have h1 := hgen.cnt x hc; rw [h.errNoCount x h'] at h1; cases h1
    · exact h'
  · intro q
    have hnd := hfull.inv.nodupL
    constructor
    · intro hq
      obtain ⟨k, hk, hqk⟩ := (h.liveIff q).mp (List.mem_of_mem_erase hq)
      have hki : k ≠ i := by
        intro e; subst e
        rw [hqk] at hq
        exact List.Nodup.not_mem_erase hnd hq
      exact ⟨k, (f.pc k hki).trans hk, hqk⟩
    · rintro ⟨k, hk, hqk⟩
      by_cases hki : k = i
      · subst hki; cases (if_pos rfl).symm.trans hk
      · have hk' := (f.pc k hki).symm.trans hk
        have hne : q ≠ p i := by
          intro e
          rw [hqk] at e
          exact hanti k i ((h.thread k).active (fun c0 a => by rw [hk']; nofun)) hi hki (by rw [e]; exact List.prefix_refl _)
        exact (List.mem_erase_of_ne hne).mpr ((h.liveIff q).mpr ⟨k, hk', hqk⟩)

end steps

theorem j_step (p : Nat → Path) (fails : Nat → Bool) (n : Nat) (hp : ∀ i, p i ≠ [])
    (hanti : ∀ i j, i < n → j < n → i ≠ j → ¬ p i <+: p j)
    (dirs0 : List Path) (s : St) (i : Nat) (hi : i < n) (h : J p n dirs0 s) : J p n dirs0 (step p fails s i) := by
  unfold step
  cases hpc : s.pc i with
  | looking cur acc =>
    simp only
    by_cases hcond : (s.dirs.contains cur || decide (cur = [])) = true
    · rw [if_pos hcond]; exact h.lookEnd hi hpc
    · rw [if_neg hcond]
      exact h.lookOn hpc fun hc => hcond (by rw [List.contains_iff_mem.mpr hc, Bool.true_or])
  | making j =>
    simp only
    cases hget : (s.cds i)[j]? with
    | some d => exact h.mkdir hi hpc hget
    | none => exact h.register hp hanti hi hpc hget
  | registered =>
    simp only
    by_cases hf : fails i = true
    · rw [if_pos hf]
      obtain ⟨b', hbe, h'⟩ := h.fail hp hanti hi hpc
      rw [hbe]; exact h'
    · rw [if_neg hf]; exact h
  | failed => exact h

theorem j_run (p : Nat → Path) (fails : Nat → Bool) (n : Nat) (hp : ∀ i, p i ≠ [])
    (hanti : ∀ i j, i < n → j < n → i ≠ j → ¬ p i <+: p j)
    (dirs0 : List Path) (sched : List Nat) (hs : ∀ i ∈ sched, i < n) (s : St) (h : J p n dirs0 s) :
    J p n dirs0 (run p fails s sched) := by
  induction sched generalizing s with
  | nil => exact h
  | cons i r ih =>
    exact ih (fun k hk => hs k (List.mem_cons_of_mem _ hk)) _ (j_step p fails n hp hanti dirs0 s i (hs i (List.mem_cons_self ..)) h)

/-- **C09, directory arbitration with failing builds, for arbitrary paths and any number of threads.**  Threads build
    files at pairwise unrelated paths (`n` threads, ids `< n`); some of their functions fail.  Under every interleaving of the `is_dir` /
    `mkdir` / `started_building_file` / `error_building_file` steps, once every thread that began is through:
    a directory is recorded as created (`created_dirs()`: kept, written to the cache, removed by `clean`) exactly if
    the build made it and an output that did not fail lies below it; it is recorded as created-then-removed
    (`_error_created_dirs`: the library `rmdir`s it when the build ends) exactly if the build made it and no such
    output lies below it.  No directory the build made is forgotten, none is in both sets — which is what every
    sequential order gives. -/
theorem dirs_accounted (p : Nat → Path) (fails : Nat → Bool) (n : Nat) (hp : ∀ i, p i ≠ [])
    (hanti : ∀ i j, i < n → j < n → i ≠ j → ¬ p i <+: p j)
    (dirs0 : List Path) (sched : List Nat) (hs : ∀ i ∈ sched, i < n)
    (hdone : ∀ i, (∀ j, (run p fails (init p dirs0) sched).pc i ≠ .making j))
    (d : Path) :
    let s := run p fails (init p dirs0) sched
    (d ∈ s.b.created ↔ (d ∈ s.dirs ∧ d ∉ dirs0 ∧ ∃ i, s.pc i = .registered ∧ properAnc d (p i))) ∧
    (d ∈ s.b.errorCreated ↔ (d ∈ s.dirs ∧ d ∉ dirs0 ∧ ¬ ∃ i, s.pc i = .registered ∧ properAnc d (p i))) := by
  intro s
  have h : J p n dirs0 s := j_run p fails n hp hanti dirs0 sched hs _ (j_init p n dirs0)
  obtain ⟨c, hsh, hfull, _⟩ := h.shadow
  have hlive := hasCount_iff_live _ _ _ hsh hfull h.binv.positive
  have hcount : hasCount s.b d = true ↔ ∃ i, s.pc i = .registered ∧ properAnc d (p i) := by
    rw [hlive d]
    constructor
    · rintro ⟨q, hq, hqa⟩
      obtain ⟨k, hk, hqk⟩ := (h.liveIff q).mp hq
      exact ⟨k, hk, hqk ▸ hqa⟩
    · rintro ⟨k, hk, hqa⟩
      exact ⟨p k, (h.liveIff _).mpr ⟨k, hk, rfl⟩, hqa⟩
  have hnew : ∀ x, (x ∈ s.b.created ∨ x ∈ s.b.errorCreated) → x ∈ s.dirs ∧ x ∉ dirs0 := by
    intro x hx
    obtain ⟨k, hk, hxk⟩ := h.src x hx
    refine ⟨(h.thread k).made x (Or.inr ⟨hk, hxk⟩), ((h.thread k).cdsOK ?_ x hxk).2⟩
    intro c0 a; rcases hk with hk | hk <;> rw [hk] <;> simp
  constructor
  · constructor
    · intro hd
      exact ⟨(hnew d (Or.inl hd)).1, (hnew d (Or.inl hd)).2, hcount.mp (h.binv.createdReserved d hd)⟩
    · rintro ⟨hd, hn, hex⟩
      rcases h.acc d hd hn with ⟨k, j, hk, _⟩ | h' | h'
      · exact absurd hk (hdone k j)
      · exact h'
      · have := h.errNoCount d h'
        rw [hcount.mpr hex] at this; cases this
  · constructor
    · intro hd
      refine ⟨(hnew d (Or.inr hd)).1, (hnew d (Or.inr hd)).2, ?_⟩
      intro hex
      have := h.errNoCount d hd
      rw [hcount.mpr hex] at this; cases this
    · rintro ⟨hd, hn, hex⟩
      rcases h.acc d hd hn with ⟨k, j, hk, _⟩ | h' | h'
      · exact absurd hk (hdone k j)
      · exact absurd (hcount.mp (h.binv.createdReserved d h')) hex
      · exact h'


def exP : Nat → Path := fun i => if i = 0 then ["a", "x"] else if i = 1 then ["a", "y"] else ["z"]
def exF : Nat → Bool := fun i => i = 0
def exFF : Nat → Bool := fun i => i = 0 || i = 1

/-- thread 0 makes `a`; thread 1 sees it; thread 0 registers, fails (`a` is virtually removed); thread 1 registers
    with nothing to its credit: `a` is recorded as created again, because an output that did not fail lies below it -/
def exSched : List Nat := [0, 0, 0, 1, 0, 0, 1, 1]

theorem ex_one_fails : (run exP exF (init exP []) exSched).b.created = [["a"]] ∧
    (run exP exF (init exP []) exSched).b.errorCreated = [] := by
  decide +kernel

theorem ex_both_fail : (run exP exFF (init exP []) exSched).b.created = [] ∧
    (run exP exFF (init exP []) exSched).b.errorCreated = [["a"]] := by
  decide +kernel

theorem exP_anti : ∀ i j, i < 2 → j < 2 → i ≠ j → ¬ exP i <+: exP j := by
  intro i j hi hj hij
  have hi' : i = 0 ∨ i = 1 := by omega
  have hj' : j = 0 ∨ j = 1 := by omega
  rcases hi' with rfl | rfl <;> rcases hj' with rfl | rfl <;> simp [exP] at hij ⊢

theorem step_pc_other (p : Nat → Path) (fails : Nat → Bool) (s : St) {i k : Nat} (h : k ≠ i) :
    (step p fails s i).pc k = s.pc k := by
  unfold step
  cases s.pc i with
  | looking cur acc =>
    dsimp only
    by_cases hc : (s.dirs.contains cur || decide (cur = [])) = true
    · rw [if_pos hc]; exact if_neg h
    · rw [if_neg hc]; exact if_neg h
  | making j =>
    dsimp only
    cases (s.cds i)[j]? <;> exact if_neg h
  | registered =>
    dsimp only
    by_cases hf : fails i = true
    · rw [if_pos hf]
      cases error s.b (p i) with
      | none => rfl
      | some b' => exact if_neg h
    · rw [if_neg hf]
  | failed => rfl

theorem run_pc_other (p : Nat → Path) (fails : Nat → Bool) (sched : List Nat) (s : St) {k : Nat} (h : k ∉ sched) :
    (run p fails s sched).pc k = s.pc k := by
  induction sched generalizing s with
  | nil => rfl
  | cons i r ih =>
    rw [List.mem_cons, not_or] at h
    exact (ih _ h.2).trans (step_pc_other p fails s h.1)

theorem ex_done (fl : Nat → Bool) (hfl : fl = exF ∨ fl = exFF) (i j : Nat) : (run exP fl (init exP []) exSched).pc i ≠ .making j := by
  by_cases hi : i ∈ exSched
  · have h01 : i = 0 ∨ i = 1 := by simp [exSched] at hi; omega
    have hF : (run exP exF (init exP []) exSched).pc 0 = .failed ∧
        (run exP exF (init exP []) exSched).pc 1 = .registered := by decide +kernel
    have hFF : (run exP exFF (init exP []) exSched).pc 0 = .failed ∧
        (run exP exFF (init exP []) exSched).pc 1 = .failed := by decide +kernel
    rcases hfl with rfl | rfl <;> rcases h01 with rfl | rfl <;> simp only [hF, hFF] <;> nofun
  · rw [run_pc_other _ _ _ _ hi]
    nofun

/-- `dirs_accounted` on the schedule of the second D7 window: its hypotheses are met, and it gives the verdicts -/
example : (["a"] ∈ (run exP exF (init exP []) exSched).b.created) ∧ (["a"] ∈ (run exP exFF (init exP []) exSched).b.errorCreated) := by
  have hp : ∀ i, exP i ≠ [] := by intro i; unfold exP; split <;> [simp; (split <;> simp)]
  have hs : ∀ i ∈ exSched, i < 2 := by intro i hi; simp [exSched] at hi; omega
  have h1 := dirs_accounted exP exF 2 hp exP_anti [] exSched hs (fun i j => ex_done exF (Or.inl rfl) i j) ["a"]
  have h2 := dirs_accounted exP exFF 2 hp exP_anti [] exSched hs (fun i j => ex_done exFF (Or.inr rfl) i j) ["a"]
  refine ⟨h1.1.mpr ⟨by decide +kernel, by simp, 1, by decide +kernel, by decide +kernel, by decide +kernel⟩,
    h2.2.mpr ⟨by decide +kernel, by simp, fun ⟨i, hi, _⟩ => ?_⟩⟩
  by_cases hs' : i ∈ exSched
  · have hFF : (run exP exFF (init exP []) exSched).pc 0 = .failed ∧
        (run exP exFF (init exP []) exSched).pc 1 = .failed := by decide +kernel
    have h01 : i = 0 ∨ i = 1 := by simp [exSched] at hs'; omega
    rcases h01 with rfl | rfl
    · rw [hFF.1] at hi; cases hi
    · rw [hFF.2] at hi; cases hi
  · rw [run_pc_other _ _ _ _ hs'] at hi; cases hi

end ConcDirsF
end FB

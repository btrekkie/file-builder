/-
  C02 — `_roll_back` (`FB.Rollback.rollBack`) restores the regular files of the pre-build tree.

  `Undoable P0 P r`: the bookkeeping `r` of a failed build describes how the tree `P` at the moment of the
  failure came out of the pre-build tree `P0` —
    * the undo log holds pre-build files, each once                                   (`saved_*`)
    * a pre-build file that is not in the log is untouched                             (`kept`)
    * a file that is new or changed is in the log, or is an output of the failed build that the first
      loop of `_roll_back` removes                                                     (`fresh`)
    * an output of the failed build at the place of a pre-build file was moved aside first (`moved`)
    * every directory that was not there before the build is one the build knows it made (`newdirs`)
  (`harness/fbh/rbcheck.py` evaluates exactly this predicate on every rollback of the generated histories.)
  Then after `rollBack` the regular files are exactly those of `P0`, with their bytes and modification times, and
  no new directory remains (directories the previous build had recorded as created may reappear).
-/
import FB.Rollback
import FB.Props.C02Backups
import FB.Props.Gone
import FB.Lemmas.ReplayBasic
namespace FB
namespace Rollback
open FS Spec Backups BuildDirs

def removable (r : RB) (f : Path) : Bool := !r.oldOutputs.contains f || Backups.wasAbsent r.bk f

theorem removeNew_eq (fs : FS) (r : RB) :
    removeNew fs r = (r.newOutputs.filter (removable r)).foldl (fun fs p => if fs.isFile p then fs.erase p else fs) fs :=
  List.foldl_filter.symm

theorem removeNew_spec (fs : FS) (r : RB) (q : Path) :
    (removeNew fs r).get q = if q ∈ r.newOutputs ∧ removable r q = true ∧ fs.isFile q = true then none else fs.get q := by
  rw [removeNew_eq, get_eraseFiles]
  exact if_congr (by rw [List.mem_filter, and_assoc]) rfl rfl

theorem restoreOne_file_from (fs : FS) (x : Path × Entry) (q : Path) (c : String) (m : Nat)
    (h : (restoreOne fs x).get q = some (.file c m)) : (q = x.1 ∧ x.2 = .file c m) ∨ fs.get q = some (.file c m) := by
  by_cases hq : q = x.1
  · subst hq
    rcases restoreOne_at fs x with h' | ⟨_, h'⟩
    · exact Or.inr (h' ▸ h)
    · rw [h'] at h
      exact Or.inl ⟨rfl, Option.some.inj h⟩
  · rcases restoreOne_other fs x q hq with h' | ⟨_, h2, _⟩
    · right; rw [← h', h]
    · rw [h] at h2; cases h2

theorem restoreAll_file_from : ∀ (saved : List (Path × Entry)) (fs : FS) (q : Path) (c : String) (m : Nat),
    (saved.foldl restoreOne fs).get q = some (.file c m) → (q, Entry.file c m) ∈ saved ∨ fs.get q = some (.file c m) := by
  intro saved
  induction saved with
  | nil => intro fs q c m h; exact Or.inr h
  | cons x rest ih =>
    intro fs q c m h
    simp only [List.foldl] at h
    rcases ih (restoreOne fs x) q c m h with h' | h'
    · exact Or.inl (List.mem_cons_of_mem _ h')
    · rcases restoreOne_file_from fs x q c m h' with ⟨h1, h2⟩ | h''
      · left
        have : x = (q, Entry.file c m) := Prod.ext h1.symm h2
        rw [this]; exact List.mem_cons_self ..
      · exact Or.inr h''

theorem rmdirStep_removes (fs : FS) (d : Path) (hne : d ≠ []) (hd : fs.get d = some .dir)
    (hempty : ∀ n, fs.get (d ++ [n]) = none) : (rmdirStep fs d).get d = none := by
  unfold rmdirStep
  have hc : fs.childNames d = [] := (childNames_eq_nil_iff fs d).mpr hempty
  have : fs.rmdir d = .ok (fs.erase d) := by simp [FS.rmdir, hne, hd, hc]
  rw [this]
  exact get_erase_self _ _ hne

theorem rmdirStep_none (fs : FS) (d q : Path) (h : fs.get q = none) : (rmdirStep fs d).get q = none := by
  rcases rmdirStep_get fs d q with h' | ⟨_, h1, _, _⟩
  · rw [h', h]
  · rw [h] at h1; cases h1

/-- a set `S` of directories every entry of which is again in `S`: removing the listed directories deepest
    first removes all of them -/
theorem foldl_rmdir_removes (S : Path → Prop) : ∀ (l : List Path) (fs : FS),
    l.Pairwise (fun a b => a.length ≥ b.length) →
    (∀ d, S d → d ≠ [] ∧ (fs.get d = none ∨ fs.get d = some .dir)) →
    (∀ d, S d → ∀ n, fs.get (d ++ [n]) ≠ none → S (d ++ [n])) →
    (∀ d, S d → d ∉ l → fs.get d = none) →
    ∀ d, S d → (l.foldl rmdirStep fs).get d = none := by
  intro l
  induction l with
  | nil => intro fs _ _ _ hout d hd; exact hout d hd (by simp)
  | cons h rest ih =>
    intro fs hp hkind hclosed hout d hd
    simp only [List.foldl]
    have hp' := List.pairwise_cons.mp hp
    apply ih (rmdirStep fs h) hp'.2
    · intro x hx
      obtain ⟨h1, h2⟩ := hkind x hx
      refine ⟨h1, ?_⟩
      rcases rmdirStep_get fs h x with h' | ⟨_, _, _, h4⟩
      · rw [h']; exact h2
      · exact Or.inl h4
    · intro x hx n hn
      apply hclosed x hx n
      intro hnone
      exact hn (rmdirStep_none fs h _ hnone)
    · intro x hx hxr
      by_cases hxh : x = h
      · subst hxh
        obtain ⟨hne, hk⟩ := hkind x hx
        rcases hk with hk | hk
        · exact rmdirStep_none fs x x hk
        · apply rmdirStep_removes fs x hne hk
          intro n
          by_contra hn
          have hc := hclosed x hx n hn
          -- the entry is in `S`, longer than `x`, hence not in the rest of the list: it is gone already
          have hnr : (x ++ [n]) ∉ x :: rest := by
            intro hm
            rcases List.mem_cons.mp hm with e | hm'
            · have := congrArg List.length e; simp at this
            · have := hp'.1 _ hm'; simp at this
          exact hn (hout _ hc hnr)
      · exact rmdirStep_none fs h x (hout x hx (by simp [hxh, hxr]))
    · exact hd

theorem rmEmpty_removes (S : Path → Prop) (fs : FS) (ds : List Path)
    (hkind : ∀ d, S d → d ≠ [] ∧ (fs.get d = none ∨ fs.get d = some .dir))
    (hclosed : ∀ d, S d → ∀ n, fs.get (d ++ [n]) ≠ none → S (d ++ [n]))
    (hlisted : ∀ d, S d → fs.get d ≠ none → d ∈ ds) :
    ∀ d, S d → (rmEmpty fs ds).get d = none := by
  rw [rmEmpty_eq]
  apply foldl_rmdir_removes S _ fs
  · have := List.pairwise_mergeSort (le := fun (a b : Path) => decide (a.length ≥ b.length))
      (fun a b c h1 h2 => by simp at h1 h2 ⊢; omega) (fun a b => by simp; omega) ds
    exact this.imp (fun h => by simpa using h)
  · exact hkind
  · exact hclosed
  · intro d hd hnm
    by_contra hne
    exact hnm (List.mem_mergeSort.mpr (hlisted d hd hne))


structure Undoable (P0 P : FS) (r : RB) : Prop where
  saved_nodup : (r.bk.saved.map (·.1)).Nodup
  saved_pre : ∀ x ∈ r.bk.saved, P0.get x.1 = some x.2 ∧ ∃ c m, x.2 = .file c m
  kept : ∀ p c m, P0.get p = some (.file c m) → P.get p = some (.file c m) ∨ p ∈ r.bk.saved.map (·.1)
  fresh : ∀ p c m, P.get p = some (.file c m) → P0.get p = some (.file c m) ∨ p ∈ r.bk.saved.map (·.1) ∨
            (p ∈ r.newOutputs ∧ removable r p = true)
  moved : ∀ p ∈ r.newOutputs, removable r p = true → P0.isFile p = true → p ∈ r.bk.saved.map (·.1)
  /-- every directory that was not there before the build is one the build knows it made -/
  newdirs : ∀ d, P.isDir d = true → P0.isDir d = false → d ∈ r.createdDirs

theorem createDirs_eq (fs : FS) (ds : List Path) :
    createDirs fs ds = mkdirs fs (ds.mergeSort (fun a b => a.length ≤ b.length)) := rfl

theorem restoreAll_dir_from : ∀ (saved : List (Path × Entry)) (fs : FS) (q : Path),
    (∀ x ∈ saved, ∃ c m, x.2 = .file c m) →
    (saved.foldl restoreOne fs).get q = some .dir → fs.get q = some .dir ∨ ∃ x ∈ saved, properPrefix q x.1 := by
  intro saved
  induction saved with
  | nil => intro fs q _ h; exact Or.inl h
  | cons x rest ih =>
    intro fs q hfile h
    simp only [List.foldl] at h
    rcases ih (restoreOne fs x) q (fun y hy => hfile y (List.mem_cons_of_mem _ hy)) h with h' | ⟨y, hy, hp⟩
    · by_cases hq : q = x.1
      · subst hq
        rcases restoreOne_at fs x with h'' | ⟨_, h''⟩
        · left; rw [← h'', h']
        · obtain ⟨c, m, hc⟩ := hfile x (List.mem_cons_self ..)
          rw [h'', hc] at h'; cases h'
      · rcases restoreOne_other fs x q hq with h'' | ⟨_, _, hp⟩
        · left; rw [← h'', h']
        · exact Or.inr ⟨x, List.mem_cons_self .., hp⟩
    · exact Or.inr ⟨y, List.mem_cons_of_mem _ hy, hp⟩

theorem removeNew_dir (fs : FS) (r : RB) (d : Path) : (removeNew fs r).get d = some .dir ↔ fs.get d = some .dir := by
  rw [removeNew_spec]
  split
  · rename_i hc
    obtain ⟨c, m, hg⟩ := isFile_iff.mp hc.2.2
    rw [hg]
    exact ⟨(fun e => nomatch e), (fun e => nomatch e)⟩
  · exact Iff.rfl

theorem rmEmpty_some {ds : List Path} {fs : FS} {q : Path} {e : Entry} (h : (rmEmpty fs ds).get q = some e) :
    fs.get q = some e := by
  rcases rmEmpty_get ds fs q with h' | ⟨_, _, h2⟩
  · rw [← h', h]
  · rw [h] at h2; cases h2

theorem _root_.FB.BuildDirs.TreeWF.not_above_of_isFile {fs : FS} (hwf : TreeWF fs) {a x : Path} (ha : fs.isFile a = true)
    (hx : fs.get x ≠ none) : ¬ properPrefix a x := by
  intro hp
  have hd := hwf.isDir_of_prefix hp.1 hp.2 hx
  rw [not_isDir_of_isFile ha] at hd
  cases hd

section
variable {P0 P : FS} {r : RB}

theorem Undoable.saved_get (h : Undoable P0 P r) {x : Path × Entry} (hx : x ∈ r.bk.saved) : P0.get x.1 ≠ none := by
  rw [(h.saved_pre x hx).1]; exact fun e => nomatch e

theorem Undoable.saved_isFile (h : Undoable P0 P r) {x : Path × Entry} (hx : x ∈ r.bk.saved) : P0.isFile x.1 = true := by
  obtain ⟨h1, c, m, h2⟩ := h.saved_pre x hx
  exact isFile_of_get (h2 ▸ h1)

theorem Undoable.survivor (h : Undoable P0 P r) {q : Path} {c : String} {m : Nat}
    (hq : (removeNew P r).get q = some (.file c m)) :
    P.get q = some (.file c m) ∧ (P0.get q = some (.file c m) ∨ q ∈ r.bk.saved.map (·.1)) := by
  rw [removeNew_spec] at hq
  split at hq
  · cases hq
  · rename_i hcond
    refine ⟨hq, ?_⟩
    rcases h.fresh q c m hq with h1 | h1 | ⟨h1, h2⟩
    · exact Or.inl h1
    · exact Or.inr h1
    · exact absurd ⟨h1, h2, isFile_of_get hq⟩ hcond

theorem Undoable.survivor_pre (h : Undoable P0 P r) {q : Path} {c : String} {m : Nat}
    (hq : (removeNew P r).get q = some (.file c m)) : P0.isFile q = true := by
  rcases (h.survivor hq).2 with h1 | h1
  · exact isFile_of_get h1
  · obtain ⟨x, hx, rfl⟩ := List.mem_map.mp h1
    exact h.saved_isFile hx

/-- the directories the failed build made are all gone after the second loop -/
theorem Undoable.newdirs_gone (hwf0 : TreeWF P0) (h : Undoable P0 P r) {d : Path} (hd : P.isDir d = true)
    (hd0 : P0.isDir d = false) : (rmEmpty (removeNew P r) r.createdDirs).get d = none := by
  refine rmEmpty_removes (fun d => P.isDir d = true ∧ P0.isDir d = false) _ _ ?_ ?_ ?_ d ⟨hd, hd0⟩
  · intro d ⟨hd, hd0⟩
    refine ⟨?_, Or.inr ((removeNew_dir P r d).mpr (isDir_iff.mp hd))⟩
    rintro rfl
    exact isDir_false_iff.mp hd0 (get_nil P0)
  · intro d ⟨_, hd0⟩ n hn
    -- nothing was below `d` before the build, so what is there now and survived the first loop is a directory
    have hno0 : P0.get (d ++ [n]) = none := by
      by_contra hc
      have := hwf0 _ (List.append_ne_nil_of_right_ne_nil _ (List.cons_ne_nil n [])) hc
      rw [List.dropLast_concat, hd0] at this; cases this
    cases hg : (removeNew P r).get (d ++ [n]) with
    | none => exact absurd hg hn
    | some e =>
      cases e with
      | dir => exact ⟨isDir_iff.mpr ((removeNew_dir ..).mp hg), isDir_false_iff.mpr (by rw [hno0]; exact fun e => nomatch e)⟩
      | file c m =>
        obtain ⟨c', m', e⟩ := isFile_iff.mp (h.survivor_pre hg)
        rw [hno0] at e; cases e
  · intro d ⟨hd, hd0⟩ _
    exact h.newdirs d hd hd0

theorem Undoable.dir_left (hwf0 : TreeWF P0) (h : Undoable P0 P r) {d : Path}
    (hg : (rmEmpty (removeNew P r) r.createdDirs).get d = some .dir) : P0.isDir d = true := by
  cases h0 : P0.isDir d with
  | true => rfl
  | false =>
    rw [h.newdirs_gone hwf0 (isDir_iff.mpr ((removeNew_dir P r d).mp (rmEmpty_some hg))) h0] at hg
    cases hg

/-- `restore_all` finds every logged path free -/
theorem Undoable.ready (hwf0 : TreeWF P0) (h : Undoable P0 P r) {x : Path × Entry} (hx : x ∈ r.bk.saved) :
    x.1 ≠ [] ∧ (rmEmpty (removeNew P r) r.createdDirs).isDir x.1 = false ∧
      ∀ a, a <+: x.1.dropLast → (rmEmpty (removeNew P r) r.createdDirs).isFile a = false := by
  have hx0 := h.saved_isFile hx
  have hne : x.1 ≠ [] := fun e => by rw [e, isFile_root] at hx0; cases hx0
  refine ⟨hne, ?_, fun a ha => ?_⟩
  · rw [isDir_false_iff]
    intro hg
    have hd := h.dir_left hwf0 hg
    rw [not_isDir_of_isFile hx0] at hd
    cases hd
  · rw [isFile_false_iff]
    intro c m hg
    exact hwf0.not_above_of_isFile (h.survivor_pre (rmEmpty_some hg)) (h.saved_get hx)
      (properPrefix_of_prefix_dropLast hne ha)

end

/-- **C02, the undo algorithm**: after `_roll_back` the regular files are exactly the pre-build ones, with their
    bytes and modification times, and no directory remains that was not there before — except that directories
    the previous build had recorded as created may reappear -/
theorem rollBack_restores_files (P0 P : FS) (r : RB) (hwf0 : TreeWF P0) (h : Undoable P0 P r) :
    (∀ p c m, P0.get p = some (.file c m) → (rollBack P r).get p = some (.file c m)) ∧
    (∀ p c m, (rollBack P r).get p = some (.file c m) → P0.get p = some (.file c m)) ∧
    (∀ d, (rollBack P r).isDir d = true → P0.isDir d = true ∨ d ∈ r.oldCreatedDirs) := by
  obtain ⟨hs1, hs2⟩ := restoreAll_spec r.bk.saved (rmEmpty (removeNew P r) r.createdDirs) h.saved_nodup
    (fun _ hx _ hy => hwf0.not_above_of_isFile (h.saved_isFile hx) (h.saved_get hy))
    (fun x hx => (h.saved_pre x hx).2) (fun x hx => h.ready hwf0 hx)
  have hroll : rollBack P r = mkdirs (r.bk.saved.foldl restoreOne (rmEmpty (removeNew P r) r.createdDirs))
      (r.oldCreatedDirs.mergeSort (fun a b => a.length ≤ b.length)) := rfl
  rw [hroll]
  refine ⟨?_, ?_, ?_⟩
  · intro p c m hp0
    apply mkdirs_file
    by_cases hps : p ∈ r.bk.saved.map (·.1)
    · obtain ⟨x, hx, rfl⟩ := List.mem_map.mp hps
      rw [hs1 x hx, ← (h.saved_pre x hx).1, hp0]
    · -- not logged: the build left it alone, and the first loop spares a pre-build file that is not logged
      have hP : P.get p = some (.file c m) := (h.kept p c m hp0).resolve_right hps
      have h1 : (removeNew P r).get p = some (.file c m) := by
        rw [removeNew_spec, if_neg, hP]
        exact fun hc => hps (h.moved p hc.1 hc.2.1 (isFile_of_get hp0))
      exact hs2 p c m (rmEmpty_file _ _ p c m h1) (fun x hx e => hps (List.mem_map.mpr ⟨x, hx, e⟩))
  · intro p c m hp
    have h3 := mkdirs_file_rev _ _ p c m hp
    by_cases hps : p ∈ r.bk.saved.map (·.1)
    · obtain ⟨x, hx, rfl⟩ := List.mem_map.mp hps
      rw [hs1 x hx] at h3
      rw [(h.saved_pre x hx).1, h3]
    · rcases restoreAll_file_from r.bk.saved _ p c m h3 with h' | h'
      · exact absurd (List.mem_map.mpr ⟨_, h', rfl⟩) hps
      · exact (h.survivor (rmEmpty_some h')).2.resolve_right hps
  · intro d hd
    rcases mkdirs_get_mem _ _ d with h' | ⟨hm, _, _⟩
    · left
      rw [isDir_iff, h'] at hd
      rcases restoreAll_dir_from r.bk.saved _ d (fun x hx => (h.saved_pre x hx).2) hd with h2 | ⟨x, hx, hp⟩
      · exact h.dir_left hwf0 h2
      · exact hwf0.isDir_of_prefix hp.1 hp.2 (h.saved_get hx)
    · right; exact List.mem_mergeSort.mp hm

end Rollback
end FB

/-
  `created_files.py` is a correct implementation of "the proper ancestors of the live files, with the number
  of reserved children of each": for every sequence of commands within the documented use (start a fresh
  file; finish or fail a live one), the Python never raises `KeyError`, `_norm_cased_dirs` is exactly the set
  of proper ancestors of the live files, and `_norm_cased_dir_to_started_count[d]` is the number of children
  of `d` that are live files or created directories.  (This is the invariant the defect D1/D2 violated.)
-/
import FB.CreatedFiles
import FB.Lemmas.PathUp
namespace FB
namespace CreatedFiles

def isChildOf (d x : Path) : Bool := decide (x ≠ [] ∧ x.dropLast = d)

/-- what `_norm_cased_dir_to_started_count[d]` is meant to be -/
def formula (L dirs : List Path) (d : Path) : Nat := L.countP (isChildOf d) + dirs.countP (isChildOf d)

def properAnc (d p : Path) : Prop := d <+: p ∧ d ≠ p

theorem getCount_congr (c c' : CF) (h : c'.count = c.count) (d : Path) : getCount c' d = getCount c d := by
  simp [getCount, h]

theorem getCount_setCount (c c' : CF) (d e : Path) (n : Nat) (h : c'.count = setCount c.count d n) :
    getCount c' e = if e = d then n else getCount c e := by
  unfold getCount
  rw [h, setCount]
  by_cases he : e = d
  · rw [if_pos he, he]; simp
  · rw [if_neg he, List.find?_cons_of_neg (by simpa using fun hh : d = e => he hh.symm), find?_filter_ne _ _ _ he]

theorem getCount_popCount (c c' : CF) (d e : Path) (h : c'.count = popCount c.count d) :
    getCount c' e = if e = d then 0 else getCount c e := by
  unfold getCount
  rw [h, popCount]
  by_cases he : e = d
  · rw [if_pos he, he, find?_filter_self]
  · rw [if_neg he, find?_filter_ne _ _ _ he]

theorem properAnc_dropLast (p : Path) (h : p ≠ []) : properAnc p.dropLast p := by
  refine ⟨List.dropLast_prefix p, ?_⟩
  intro e
  have := congrArg List.length e
  simp [List.length_dropLast] at this
  have : p.length ≠ 0 := by simpa using h
  omega

theorem properAnc_length {d p : Path} (h : properAnc d p) : d.length < p.length := by
  obtain ⟨⟨t, ht⟩, hne⟩ := h
  subst ht
  cases t with
  | nil => simp at hne
  | cons x r => simp

theorem prefix_dropLast_of_properAnc {d p : Path} (h : properAnc d p) : d <+: p.dropLast :=
  prefix_dropLast_of_ne h.1 h.2

theorem properAnc_trans_prefix {d e p : Path} (h1 : properAnc d e) (h2 : e <+: p) : properAnc d p :=
  ⟨h1.1.trans h2, fun h => by
    have := properAnc_length h1
    have h3 := h2.length_le
    rw [h] at this; omega⟩

theorem properAnc_of_prefix {d e p : Path} (h1 : d <+: e) (h2 : properAnc e p) : properAnc d p :=
  ⟨h1.trans h2.1, fun h => by
    have := properAnc_length h2
    have h3 := h1.length_le
    rw [h] at h3; omega⟩

theorem properAnc_cases {d p : Path} (h : properAnc d p) : d = p.dropLast ∨ properAnc d p.dropLast := by
  have h1 := prefix_dropLast_of_properAnc h
  by_cases he : d = p.dropLast
  · exact Or.inl he
  · exact Or.inr ⟨h1, he⟩

theorem isChildOf_iff (d x : Path) : isChildOf d x = true ↔ x ≠ [] ∧ x.dropLast = d := by
  simp [isChildOf]

/-- the data-structure invariant of `CreatedFiles`, for the list `L` of live files (started, not failed) -/
structure Inv (c : CF) (L : List Path) : Prop where
  nodupL : L.Nodup
  nodupD : c.dirs.Nodup
  /-- `_norm_cased_dirs` = the proper ancestors of the live files -/
  dirs : ∀ d, d ∈ c.dirs ↔ ∃ q ∈ L, properAnc d q
  count : ∀ d, getCount c d = formula L c.dirs d
  pos : ∀ d, 0 < getCount c d ↔ d ∈ c.dirs

theorem inv_empty : Inv {} [] :=
  ⟨List.nodup_nil, List.nodup_nil, fun d => by simp, fun d => by simp [getCount, formula], fun d => by simp [getCount]⟩

theorem countP_cons_dirs (d x : Path) (ds : List Path) :
    (x :: ds).countP (isChildOf d) = ds.countP (isChildOf d) + (if isChildOf d x then 1 else 0) := by
  simp [List.countP_cons]

theorem isChildOf_dropLast {x : Path} (hx : x ≠ []) : isChildOf x.dropLast x = true :=
  (isChildOf_iff _ _).mpr ⟨hx, rfl⟩

theorem isChildOf_of_ne {d x : Path} (h : d ≠ x.dropLast) : isChildOf d x = false := by
  cases hc : isChildOf d x with
  | false => rfl
  | true => exact absurd ((isChildOf_iff _ _).mp hc).2.symm h

theorem isChildOf_nil (d : Path) : isChildOf d [] = false := by
  cases hc : isChildOf d [] with
  | false => rfl
  | true => exact absurd rfl ((isChildOf_iff _ _).mp hc).1

theorem formula_cons_live (p : Path) (L dirs : List Path) (d : Path) :
    formula (p :: L) dirs d = formula L dirs d + (if isChildOf d p then 1 else 0) := by
  unfold formula; rw [countP_cons_dirs]; omega

theorem formula_cons_dirs (L : List Path) (x : Path) (dirs : List Path) (d : Path) :
    formula L (x :: dirs) d = formula L dirs d + (if isChildOf d x then 1 else 0) := by
  unfold formula; rw [countP_cons_dirs]; omega

theorem formula_erase_live {L : List Path} (hn : L.Nodup) {p : Path} (hp : p ∈ L) (dirs : List Path) (d : Path) :
    formula (L.erase p) dirs d + (if isChildOf d p then 1 else 0) = formula L dirs d := by
  unfold formula; have := countP_erase_nodup (isChildOf d) L p hn hp; omega

theorem formula_erase_dirs (L : List Path) {dirs : List Path} (hn : dirs.Nodup) {x : Path} (hx : x ∈ dirs) (d : Path) :
    formula L (dirs.erase x) d + (if isChildOf d x then 1 else 0) = formula L dirs d := by
  unfold formula; have := countP_erase_nodup (isChildOf d) dirs x hn hx; omega

theorem addToSub_fields (c : CF) (p : Path) :
    (addToSub c p).dirs = c.dirs ∧ (addToSub c p).count = c.count ∧ (addToSub c p).files = c.files := by
  unfold addToSub
  split
  · exact ⟨rfl, rfl, rfl⟩
  · simp only
    split <;> exact ⟨rfl, rfl, rfl⟩

/-- one round of the loop of `started_building_file` at a directory without reservations -/
def visit (c : CF) (parent : Path) : CF :=
  addToSub { c with count := setCount c.count parent (getCount c parent + 1),
                    dirs := if c.dirs.contains parent then c.dirs else parent :: c.dirs } parent

theorem startedLoop_eq (c : CF) (parent : Path) :
    startedLoop c parent =
      if getCount c parent > 0 then { c with count := setCount c.count parent (getCount c parent + 1) }
      else if parent = [] then visit c parent else startedLoop (visit c parent) parent.dropLast := by
  rw [startedLoop]
  by_cases hn : getCount c parent > 0
  · simp only [hn, if_true]
  · simp only [hn, if_false]
    split <;> rfl

/-- whatever holds of single rounds and composes along the walk up holds of the loop -/
theorem startedLoop_rel (R : CF → Path → CF → Prop)
    (stop : ∀ c parent, getCount c parent > 0 →
      R c parent { c with count := setCount c.count parent (getCount c parent + 1) })
    (root : ∀ c, ¬ getCount c [] > 0 → R c [] (visit c []))
    (up : ∀ c parent c', ¬ getCount c parent > 0 → parent ≠ [] → R (visit c parent) parent.dropLast c' → R c parent c')
    (c : CF) (parent : Path) : R c parent (startedLoop c parent) := by
  induction parent using dropLast_induction generalizing c with
  | _ parent ih =>
    rw [startedLoop_eq]
    split
    · exact stop _ _ ‹_›
    · split
      · rename_i hn hp; subst hp; exact root _ hn
      · exact up _ _ _ ‹_› ‹_› (ih ‹_› _)

theorem visit_count (c : CF) (parent : Path) :
    (visit c parent).count = setCount c.count parent (getCount c parent + 1) := (addToSub_fields _ _).2.1

theorem visit_dirs_new {c : CF} {parent : Path} (h : parent ∉ c.dirs) : (visit c parent).dirs = parent :: c.dirs := by
  rw [visit, (addToSub_fields _ _).1]
  exact if_neg (by simpa using h)

/-- the state in the middle of the loop of `started_building_file(p)`: the ancestors of `p` from `x` on are done
    (at first `x = p`), the parent of `x` is next.  The invariant for `p :: L` holds except that the parent of `x`
    does not count `x` yet. -/
structure PreS (c : CF) (L : List Path) (p x : Path) : Prop where
  nodupL : (p :: L).Nodup
  nodupD : c.dirs.Nodup
  anc : x <+: p
  dirs : ∀ d, d ∈ c.dirs ↔ (∃ q ∈ L, properAnc d q) ∨ (properAnc d p ∧ x.length ≤ d.length)
  count : ∀ d, getCount c d + (if isChildOf d x then 1 else 0) = formula (p :: L) c.dirs d
  pos : ∀ d, 0 < getCount c d ↔ d ∈ c.dirs

theorem preS_init {c : CF} {L : List Path} (h : Inv c L) {p : Path} (hnew : p ∉ L) : PreS c L p p :=
  ⟨List.nodup_cons.mpr ⟨hnew, h.nodupL⟩, h.nodupD, List.prefix_refl _, fun d => by
      rw [h.dirs d]
      exact ⟨Or.inl, fun h' => h'.elim id (fun ⟨ha, hlen⟩ => absurd (properAnc_length ha) (by omega))⟩,
    fun d => by rw [h.count d, formula_cons_live], h.pos⟩

theorem PreS.count_parent {c : CF} {L : List Path} {p x : Path} (h : PreS c L p x) (hx : x ≠ []) :
    getCount c x.dropLast + 1 = formula (p :: L) c.dirs x.dropLast := by
  have := h.count x.dropLast; rwa [isChildOf_dropLast hx, if_pos rfl] at this

theorem PreS.count_other {c : CF} {L : List Path} {p x d : Path} (h : PreS c L p x) (hd : d ≠ x.dropLast) :
    getCount c d = formula (p :: L) c.dirs d := by
  have := h.count d; rwa [isChildOf_of_ne hd, if_neg Bool.false_ne_true, Nat.add_zero] at this

theorem PreS.dirs_sub {c : CF} {L : List Path} {p x : Path} (h : PreS c L p x) {d : Path} (hd : d ∈ c.dirs) :
    ∃ q ∈ p :: L, properAnc d q := by
  rcases (h.dirs d).mp hd with ⟨q, hq, ha⟩ | ⟨ha, _⟩
  · exact ⟨q, List.mem_cons_of_mem _ hq, ha⟩
  · exact ⟨p, List.mem_cons_self .., ha⟩

theorem PreS.inv {c : CF} {L : List Path} {p : Path} (h : PreS c L p []) : Inv c (p :: L) := by
  refine ⟨h.nodupL, h.nodupD, fun d => ⟨h.dirs_sub, ?_⟩, fun d => by simpa [isChildOf_nil] using h.count d, h.pos⟩
  rintro ⟨q, hq, ha⟩
  rcases List.mem_cons.mp hq with rfl | hq
  · exact (h.dirs d).mpr (Or.inr ⟨ha, Nat.zero_le _⟩)
  · exact (h.dirs d).mpr (Or.inl ⟨q, hq, ha⟩)

theorem preS_stop {c : CF} {L : List Path} {p x : Path} (h : PreS c L p x) (hx : x ≠ [])
    (hn : getCount c x.dropLast > 0) :
    Inv { c with count := setCount c.count x.dropLast (getCount c x.dropLast + 1) } (p :: L) := by
  have hmem : x.dropLast ∈ c.dirs := (h.pos _).mp hn
  have hxl := length_dropLast_add_one hx
  have hg := fun d => getCount_setCount c { c with count := setCount c.count x.dropLast (getCount c x.dropLast + 1) }
    x.dropLast d _ rfl
  refine ⟨h.nodupL, h.nodupD, fun d => ⟨h.dirs_sub, ?_⟩, ?_, ?_⟩
  · rintro ⟨q, hq, ha⟩
    rcases List.mem_cons.mp hq with rfl | hq
    · by_cases hlen : x.length ≤ d.length
      · exact (h.dirs d).mpr (Or.inr ⟨ha, hlen⟩)
      · -- `d` is the parent of `x` or one of its ancestors: it has a live descendant already
        rcases (h.dirs _).mp hmem with ⟨q', hq', ha'⟩ | ⟨_, h'⟩
        · have hdp : d <+: x.dropLast :=
            List.prefix_of_prefix_length_le ha.1 ((List.dropLast_prefix x).trans h.anc) (by omega)
          exact (h.dirs d).mpr (Or.inl ⟨q', hq', properAnc_of_prefix hdp ha'⟩)
        · omega
    · exact (h.dirs d).mpr (Or.inl ⟨q, hq, ha⟩)
  · intro d
    rw [hg]
    split
    · rename_i hd; subst hd; exact h.count_parent hx
    · rename_i hd; exact h.count_other hd
  · intro d
    rw [hg]
    split
    · rename_i hd; subst hd; exact ⟨fun _ => hmem, fun _ => Nat.succ_pos _⟩
    · exact h.pos d

theorem preS_visit {c : CF} {L : List Path} {p x : Path} (h : PreS c L p x) (hx : x ≠ [])
    (hn : ¬ getCount c x.dropLast > 0) : PreS (visit c x.dropLast) L p x.dropLast := by
  have hpa : properAnc x.dropLast p := properAnc_trans_prefix (properAnc_dropLast x hx) h.anc
  have hxl := length_dropLast_add_one hx
  have hnm : x.dropLast ∉ c.dirs := fun hm => hn ((h.pos _).mpr hm)
  have hd' := visit_dirs_new hnm
  have hg := fun d => getCount_setCount c _ x.dropLast d _ (visit_count c x.dropLast)
  refine ⟨h.nodupL, by rw [hd']; exact List.nodup_cons.mpr ⟨hnm, h.nodupD⟩, hpa.1, ?_, ?_, ?_⟩
  · intro d
    rw [hd', List.mem_cons, h.dirs d]
    constructor
    · rintro (rfl | h' | ⟨ha, hlen⟩)
      · exact Or.inr ⟨hpa, Nat.le_refl _⟩
      · exact Or.inl h'
      · exact Or.inr ⟨ha, by omega⟩
    · rintro (h' | ⟨ha, hlen⟩)
      · exact Or.inr (Or.inl h')
      · by_cases hlen' : x.length ≤ d.length
        · exact Or.inr (Or.inr ⟨ha, hlen'⟩)
        · exact Or.inl (prefix_same_length ha.1 hpa.1 (by omega))
  · intro d
    rw [hd', formula_cons_dirs, hg, Nat.add_right_cancel_iff]
    split
    · rename_i hd; subst hd; exact h.count_parent hx
    · rename_i hd; exact h.count_other hd
  · intro d
    rw [hg, hd', List.mem_cons]
    split
    · rename_i hd; simp [hd]
    · rename_i hd; rw [h.pos d]; simp [hd]

theorem startedLoop_spec (L : List Path) (p : Path) (c : CF) (x : Path) (h : PreS c L p x) (hx : x ≠ []) :
    Inv (startedLoop c x.dropLast) (p :: L) :=
  startedLoop_rel (fun c parent c' => ∀ x, x ≠ [] → x.dropLast = parent → PreS c L p x → Inv c' (p :: L))
    (fun _ _ hn x hx e h => by subst e; exact preS_stop h hx hn)
    (fun _ hn x hx e h => by have := preS_visit h hx (e ▸ hn); rw [e] at this; exact this.inv)
    (fun _ _ _ hn hp ih x hx e h => by subst e; exact ih _ hp rfl (preS_visit h hx hn))
    c x.dropLast x hx rfl h

/-- `_norm_cased_dir_to_subfiles[d]` lists exactly the created children of `d` -/
def SubInv (c : CF) : Prop := ∀ d n, n ∈ getSub c d ↔ (d ++ [n] ∈ c.files ∨ d ++ [n] ∈ c.dirs)

theorem getSub_congr (c c' : CF) (h : c'.subfiles = c.subfiles) (d : Path) : getSub c' d = getSub c d := by
  simp [getSub, h]

theorem getSub_setSub (c c' : CF) (d e : Path) (ns : List String) (h : c'.subfiles = setSub c.subfiles d ns) :
    getSub c' e = if e = d then ns else getSub c e := by
  unfold getSub
  rw [h, setSub]
  by_cases he : e = d
  · rw [if_pos he, he]
    by_cases hns : ns = []
    · rw [if_pos hns, find?_filter_self, hns]
    · rw [if_neg hns]; simp
  · rw [if_neg he]
    by_cases hns : ns = []
    · rw [if_pos hns, find?_filter_ne _ _ _ he]
    · rw [if_neg hns, List.find?_cons_of_neg (by simpa using fun hh : d = e => he hh.symm), find?_filter_ne _ _ _ he]

theorem addToSub_getSub (c : CF) (p d : Path) :
    (∀ n, n ∈ getSub (addToSub c p) d ↔ n ∈ getSub c d ∨ p = d ++ [n]) ∧
      ((getSub c d).Nodup → (getSub (addToSub c p) d).Nodup) := by
  unfold addToSub
  cases hg : p.getLast? with
  | none =>
    rw [eq_nil_of_getLast? hg]
    exact ⟨fun n => ⟨Or.inl, fun h => h.elim id (fun e => by simp at e)⟩, id⟩
  | some base =>
    have hsn := snoc_dropLast_getLast hg
    dsimp only
    by_cases hc : (getSub c p.dropLast).contains base = true
    · rw [if_pos hc]
      refine ⟨fun n => ⟨Or.inl, fun h => h.elim id (fun e => ?_)⟩, id⟩
      obtain ⟨rfl, rfl⟩ := snoc_inj (hsn.symm.trans e)
      simpa using hc
    · rw [if_neg hc, getSub_setSub c _ p.dropLast d _ rfl]
      have hb : base ∉ getSub c p.dropLast := by simpa using hc
      by_cases hd : d = p.dropLast
      · subst hd
        rw [if_pos rfl]
        refine ⟨fun n => ?_, fun hnd => List.nodup_append.mpr ⟨hnd, by simp, ?_⟩⟩
        · rw [List.mem_append, List.mem_singleton]
          exact or_congr_right ⟨fun e => by rw [e]; exact hsn, fun e => ((snoc_inj (hsn.symm.trans e)).2).symm⟩
        · intro a ha b hb'
          rw [List.mem_singleton.mp hb']
          exact fun e => hb (e ▸ ha)
      · rw [if_neg hd]
        exact ⟨fun n => ⟨Or.inl, fun h => h.elim id (fun e => absurd (snoc_inj (hsn.symm.trans e)).1.symm hd)⟩, id⟩

theorem subInv_add (c c1 : CF) (p : Path) (h : SubInv c)
    (hf : ∀ x, (x ∈ c1.files ∨ x ∈ c1.dirs) ↔ (x ∈ c.files ∨ x ∈ c.dirs) ∨ x = p)
    (hs : c1.subfiles = c.subfiles) : SubInv (addToSub c1 p) := by
  intro d n
  rw [(addToSub_getSub c1 p d).1, (addToSub_fields c1 p).1, (addToSub_fields c1 p).2.2, hf, getSub_congr c c1 hs, h d n,
    eq_comm]

theorem addToSub_nodup (c : CF) (p : Path) (h : ∀ d, (getSub c d).Nodup) : ∀ d, (getSub (addToSub c p) d).Nodup :=
  fun d => (addToSub_getSub c p d).2 (h d)

theorem visit_subInv (c : CF) (parent : Path) (h : SubInv c) : SubInv (visit c parent) :=
  subInv_add c _ parent h (fun x => by rw [mem_ite_cons, or_assoc]) rfl

theorem startedLoop_subInv (c : CF) (parent : Path) (h : SubInv c) : SubInv (startedLoop c parent) :=
  startedLoop_rel (fun c _ c' => SubInv c → SubInv c') (fun _ _ _ h => h) (fun c _ h => visit_subInv c [] h)
    (fun c parent _ _ _ ih h => ih (visit_subInv c parent h)) c parent h

theorem child_towards {d q : Path} (h : properAnc d q) :
    ∃ x, isChildOf d x = true ∧ (x = q ∨ properAnc x q) := by
  obtain ⟨⟨t, ht⟩, hne⟩ := h
  subst ht
  cases t with
  | nil => simp at hne
  | cons a r =>
    refine ⟨d ++ [a], by simp [isChildOf], ?_⟩
    by_cases hr : r = []
    · subst hr; exact Or.inl rfl
    · right
      refine ⟨⟨r, by simp⟩, ?_⟩
      intro e
      have := congrArg List.length e
      simp at this
      exact hr this

theorem isChildOf_properAnc {d x : Path} (h : isChildOf d x = true) : properAnc d x := by
  rw [isChildOf_iff] at h
  rw [← h.2]; exact properAnc_dropLast x h.1

theorem getCount_eq_of_find (c : CF) (d : Path) (h : 0 < getCount c d) :
    ∃ k, c.count.find? (fun x => x.1 = d) = some (k, getCount c d) := by
  unfold getCount at h ⊢
  cases hf : c.count.find? (fun x => x.1 = d) with
  | none => simp [hf] at h
  | some x => exact ⟨x.1, by simp⟩

/-- the data-structure invariant together with what the library guarantees about its use -/
structure Full (c : CF) (L : List Path) : Prop where
  inv : Inv c L
  sub : SubInv c
  subNodup : ∀ d, (getSub c d).Nodup
  filesLive : ∀ x ∈ c.files, x ∈ L
  antichain : ∀ x ∈ L, ∀ y ∈ L, ¬ properAnc x y

theorem Full.disj {c : CF} {L : List Path} (h : Full c L) : ∀ x ∈ c.files, x ∉ c.dirs := by
  intro x hx hd
  obtain ⟨q, hq, ha⟩ := (h.inv.dirs x).mp hd
  exact h.antichain x (h.filesLive x hx) q hq ha

/-- what `has_norm_cased_dir` answers -/
theorem hasDir_iff {c : CF} {L : List Path} (h : Full c L) (d : Path) :
    hasDir c d = true ↔ ∃ q ∈ L, properAnc d q := by
  unfold hasDir
  rw [List.contains_iff_mem, h.inv.dirs d]

theorem full_empty : Full {} [] :=
  ⟨inv_empty, fun d n => by simp [getSub], fun d => by simp [getSub], (fun x hx => nomatch hx), (fun x hx => nomatch hx)⟩

/-- the state in the middle of the loop of `error_building_file(p)`: the ancestors of `p` from `x` on are done
    (at first `x = p`), the parent of `x` is next.  The invariant for `L'` holds except that the parent of `x`
    still counts `x`. -/
structure PreE (c : CF) (L' : List Path) (p x : Path) : Prop where
  nodupL : L'.Nodup
  nodupD : c.dirs.Nodup
  anc : x <+: p
  dirs : ∀ d, d ∈ c.dirs ↔ (∃ q ∈ L', properAnc d q) ∨ (properAnc d p ∧ d.length < x.length)
  count : ∀ d, getCount c d = formula L' c.dirs d + (if isChildOf d x then 1 else 0)
  pos : ∀ d, 0 < getCount c d ↔ d ∈ c.dirs
  sub : SubInv c
  subNodup : ∀ d, (getSub c d).Nodup
  disj : ∀ x ∈ c.files, x ∉ c.dirs

theorem preE_init {c : CF} {L : List Path} (h : Full c L) {p : Path} (hp : p ∈ L) : PreE c (L.erase p) p p := by
  refine ⟨h.inv.nodupL.erase _, h.inv.nodupD, List.prefix_refl _, fun d => ?_,
    fun d => by rw [h.inv.count d, formula_erase_live h.inv.nodupL hp], h.inv.pos, h.sub, h.subNodup, h.disj⟩
  rw [h.inv.dirs d]
  constructor
  · rintro ⟨q, hq, ha⟩
    by_cases hqp : q = p
    · subst hqp; exact Or.inr ⟨ha, properAnc_length ha⟩
    · exact Or.inl ⟨q, (List.mem_erase_of_ne hqp).mpr hq, ha⟩
  · rintro (⟨q, hq, ha⟩ | ⟨ha, _⟩)
    · exact ⟨q, List.mem_of_mem_erase hq, ha⟩
    · exact ⟨p, hp, ha⟩

theorem PreE.count_parent {c : CF} {L' : List Path} {p x : Path} (h : PreE c L' p x) (hx : x ≠ []) :
    getCount c x.dropLast = formula L' c.dirs x.dropLast + 1 := by
  have := h.count x.dropLast; rwa [isChildOf_dropLast hx, if_pos rfl] at this

theorem PreE.count_other {c : CF} {L' : List Path} {p x d : Path} (h : PreE c L' p x) (hd : d ≠ x.dropLast) :
    getCount c d = formula L' c.dirs d := by
  have := h.count d; rwa [isChildOf_of_ne hd, if_neg Bool.false_ne_true, Nat.add_zero] at this

theorem PreE.inv {c : CF} {L' : List Path} {p : Path} (h : PreE c L' p []) : Inv c L' :=
  ⟨h.nodupL, h.nodupD, fun d => by
      rw [h.dirs d]
      exact ⟨fun h' => h'.elim id (fun ⟨_, hl⟩ => absurd hl (Nat.not_lt_zero _)), Or.inl⟩,
    fun d => by simpa [isChildOf_nil] using h.count d, h.pos⟩

theorem removeFromSub_getSub (c : CF) (p : Path) (hok : ∀ d n, p = d ++ [n] → n ∈ getSub c d) :
    ∃ c2, removeFromSub c p = some c2 ∧ c2.files = c.files ∧ c2.dirs = c.dirs ∧ c2.count = c.count ∧
      ∀ d, (getSub c d).Nodup → (getSub c2 d).Nodup ∧ ∀ n, n ∈ getSub c2 d ↔ n ∈ getSub c d ∧ p ≠ d ++ [n] := by
  unfold removeFromSub
  cases hg : p.getLast? with
  | none =>
    rw [eq_nil_of_getLast? hg]
    exact ⟨c, rfl, rfl, rfl, rfl, fun d hnd => ⟨hnd, fun n => ⟨fun h => ⟨h, by simp⟩, And.left⟩⟩⟩
  | some base =>
    have hsn := snoc_dropLast_getLast hg
    have hb := hok _ _ hsn
    dsimp only
    cases hfind : c.subfiles.find? (fun x => x.1 = p.dropLast) with
    | none =>
      have : getSub c p.dropLast = [] := by unfold getSub; rw [hfind]
      rw [this] at hb; cases hb
    | some x =>
      have hns : x.2 = getSub c p.dropLast := by unfold getSub; rw [hfind]
      dsimp only
      rw [if_pos (by rw [hns]; simpa using hb)]
      refine ⟨_, rfl, rfl, rfl, rfl, fun d hnd => ?_⟩
      rw [getSub_setSub c _ p.dropLast d _ rfl]
      by_cases hd : d = p.dropLast
      · subst hd
        rw [if_pos rfl, hns]
        refine ⟨hnd.erase _, fun n => ?_⟩
        rw [hnd.mem_erase_iff, and_comm]
        exact and_congr_right fun _ => not_congr
          ⟨fun e => by rw [e]; exact hsn, fun e => ((snoc_inj (hsn.symm.trans e)).2).symm⟩
      · rw [if_neg hd]
        exact ⟨hnd, fun n => ⟨fun h => ⟨h, fun e => hd (snoc_inj (hsn.symm.trans e)).1.symm⟩, And.left⟩⟩

theorem removeFromSub_count (c c2 : CF) (p : Path) (h : removeFromSub c p = some c2) : c2.count = c.count := by
  unfold removeFromSub at h
  split at h
  · cases h; rfl
  · simp only at h
    split at h
    · cases h
    · split at h
      · cases h; rfl
      · cases h

theorem no_live_below {c : CF} {L' : List Path} {p x : Path} (h : PreE c L' p x) {parent : Path}
    (hz : formula L' c.dirs parent = 0) : ¬ ∃ q ∈ L', properAnc parent q := by
  rintro ⟨q, hq, ha⟩
  obtain ⟨y, hy, hyq⟩ := child_towards ha
  have h0 : L'.countP (isChildOf parent) = 0 ∧ c.dirs.countP (isChildOf parent) = 0 := by
    unfold formula at hz; omega
  rcases hyq with rfl | hyq
  · exact (List.countP_eq_zero.mp h0.1) y hq hy
  · exact (List.countP_eq_zero.mp h0.2) y ((h.dirs y).mpr (Or.inl ⟨q, hq, hyq⟩)) hy

theorem preE_stop {c : CF} {L' : List Path} {p x : Path} (h : PreE c L' p x) (hx : x ≠ [])
    (hgt : getCount c x.dropLast - 1 > 0) :
    Inv { c with count := setCount c.count x.dropLast (getCount c x.dropLast - 1) } L' := by
  have hpa : properAnc x.dropLast p := properAnc_trans_prefix (properAnc_dropLast x hx) h.anc
  have hxl := length_dropLast_add_one hx
  have hmem : x.dropLast ∈ c.dirs := (h.dirs _).mpr (Or.inr ⟨hpa, by omega⟩)
  have hcp := h.count_parent hx
  have hg := fun d => getCount_setCount c { c with count := setCount c.count x.dropLast (getCount c x.dropLast - 1) }
    x.dropLast d _ rfl
  -- another child of the parent of `x` is live or has a live file below it
  have hlive : ∃ q ∈ L', properAnc x.dropLast q := by
    by_contra hno
    have hp' : 0 < formula L' c.dirs x.dropLast := by omega
    unfold formula at hp'
    by_cases h1 : 0 < L'.countP (isChildOf x.dropLast)
    · obtain ⟨y, hy, hc⟩ := List.countP_pos_iff.mp h1
      exact hno ⟨y, hy, isChildOf_properAnc hc⟩
    · have h2 : 0 < c.dirs.countP (isChildOf x.dropLast) := by omega
      obtain ⟨e, he, hc⟩ := List.countP_pos_iff.mp h2
      rcases (h.dirs e).mp he with ⟨q, hq, ha⟩ | ⟨_, hlen⟩
      · exact hno ⟨q, hq, properAnc_trans_prefix (isChildOf_properAnc hc) ha.1⟩
      · have := properAnc_length (isChildOf_properAnc hc); omega
  refine ⟨h.nodupL, h.nodupD, fun d => ?_, ?_, ?_⟩
  · rw [h.dirs d]
    refine ⟨?_, Or.inl⟩
    rintro (h' | ⟨ha, hlen⟩)
    · exact h'
    · obtain ⟨q, hq, haq⟩ := hlive
      have hdp : d <+: x.dropLast := List.prefix_of_prefix_length_le ha.1 hpa.1 (by omega)
      exact ⟨q, hq, properAnc_of_prefix hdp haq⟩
  · intro d
    rw [hg]
    split
    · rename_i hd; subst hd; show _ = formula L' c.dirs _; omega
    · rename_i hd; exact h.count_other hd
  · intro d
    rw [hg]
    split
    · rename_i hd; subst hd; exact ⟨fun _ => hmem, fun _ => hgt⟩
    · exact h.pos d

theorem preE_leave {c : CF} {L' : List Path} {p x : Path} (h : PreE c L' p x) (hx : x ≠ [])
    (hz : formula L' c.dirs x.dropLast = 0) :
    ∃ c2, removeFromSub { c with count := popCount c.count x.dropLast, dirs := c.dirs.erase x.dropLast } x.dropLast =
        some c2 ∧ PreE c2 L' p x.dropLast ∧ c2.files = c.files := by
  have hpa : properAnc x.dropLast p := properAnc_trans_prefix (properAnc_dropLast x hx) h.anc
  have hxl := length_dropLast_add_one hx
  have hmem : x.dropLast ∈ c.dirs := (h.dirs _).mpr (Or.inr ⟨hpa, by omega⟩)
  have hnolive := no_live_below h hz
  obtain ⟨c2, hrem, hf2, hd2, hc2, hsub⟩ := removeFromSub_getSub
    { c with count := popCount c.count x.dropLast, dirs := c.dirs.erase x.dropLast } x.dropLast
    (fun d n e => (h.sub d n).mpr (Or.inr (e ▸ hmem)))
  have hg := fun d => getCount_popCount c c2 x.dropLast d hc2
  refine ⟨c2, hrem, ⟨h.nodupL, by rw [hd2]; exact h.nodupD.erase _, hpa.1, ?_, ?_, ?_, ?_, fun d => (hsub d (h.subNodup d)).1,
    ?_⟩, hf2⟩
  · intro d
    rw [hd2]
    constructor
    · intro hm
      have hne : d ≠ x.dropLast := fun e => by subst e; exact (List.Nodup.not_mem_erase h.nodupD) hm
      rcases (h.dirs d).mp (List.mem_of_mem_erase hm) with h' | ⟨ha, hlen⟩
      · exact Or.inl h'
      · refine Or.inr ⟨ha, ?_⟩
        by_contra hlt
        exact hne (prefix_same_length ha.1 hpa.1 (by omega))
    · rintro (⟨q, hq, ha⟩ | ⟨ha, hlen⟩)
      · have hne : d ≠ x.dropLast := fun e => by subst e; exact hnolive ⟨q, hq, ha⟩
        rw [List.mem_erase_of_ne hne]
        exact (h.dirs d).mpr (Or.inl ⟨q, hq, ha⟩)
      · have hne : d ≠ x.dropLast := fun e => by subst e; omega
        rw [List.mem_erase_of_ne hne]
        exact (h.dirs d).mpr (Or.inr ⟨ha, by omega⟩)
  · intro d
    rw [hd2]
    show _ = formula L' (c.dirs.erase x.dropLast) d + _
    rw [formula_erase_dirs L' h.nodupD hmem, hg]
    split
    · rename_i hd; subst hd; exact hz.symm
    · rename_i hd; exact h.count_other hd
  · intro d
    rw [hg, hd2]
    show _ ↔ d ∈ c.dirs.erase x.dropLast
    split
    · rename_i hd; subst hd; simp [List.Nodup.not_mem_erase h.nodupD]
    · rename_i hd; rw [h.pos d, List.mem_erase_of_ne hd]
  · intro d n
    rw [(hsub d (h.subNodup d)).2, hf2, hd2]
    show n ∈ getSub c d ∧ _ ↔ d ++ [n] ∈ c.files ∨ d ++ [n] ∈ c.dirs.erase x.dropLast
    rw [h.sub d n, h.nodupD.mem_erase_iff, ne_comm]
    constructor
    · rintro ⟨h' | h', hne⟩
      · exact Or.inl h'
      · exact Or.inr ⟨hne, h'⟩
    · rintro (h' | ⟨hne, h'⟩)
      · exact ⟨Or.inl h', fun e => h.disj _ h' (e ▸ hmem)⟩
      · exact ⟨Or.inr h', hne⟩
  · intro y hy
    rw [hf2] at hy
    rw [hd2]
    exact fun hm => h.disj y hy (List.mem_of_mem_erase hm)

theorem errorLoop_spec (L' : List Path) (p : Path) (c : CF) (x : Path) (h : PreE c L' p x) (hx : x ≠ []) :
    ∃ c', errorLoop c x.dropLast = some c' ∧ Inv c' L' ∧ SubInv c' ∧ (∀ d, (getSub c' d).Nodup) ∧ c'.files = c.files := by
  generalize hpar : x.dropLast = parent
  induction parent using dropLast_induction generalizing c x with
  | _ parent ih =>
    subst hpar
    have hxl := length_dropLast_add_one hx
    have hmem : x.dropLast ∈ c.dirs :=
      (h.dirs _).mpr (Or.inr ⟨properAnc_trans_prefix (properAnc_dropLast x hx) h.anc, by omega⟩)
    obtain ⟨k, hfind⟩ := getCount_eq_of_find c x.dropLast ((h.pos _).mpr hmem)
    rw [errorLoop, hfind]
    simp only
    by_cases hgt : getCount c x.dropLast - 1 > 0
    · simp only [hgt, if_true]
      exact ⟨_, rfl, preE_stop h hx hgt, h.sub, h.subNodup, rfl⟩
    · simp only [hgt, if_false]
      have hcont : c.dirs.contains x.dropLast = true := by simpa using hmem
      simp only [hcont, Bool.not_true, Bool.false_eq_true, if_false]
      have hz : formula L' c.dirs x.dropLast = 0 := by have := h.count_parent hx; omega
      obtain ⟨c2, hrem, h2, hf2⟩ := preE_leave h hx hz
      rw [hrem]
      by_cases hp : x.dropLast = []
      · simp only [hp, dite_true]
        rw [hp] at h2
        exact ⟨c2, rfl, h2.inv, h2.sub, h2.subNodup, hf2⟩
      · simp only [hp, dite_false]
        obtain ⟨c', hc', hinv', hs', hn', hfl'⟩ := ih hp c2 x.dropLast h2 hp rfl
        exact ⟨c', hc', hinv', hs', hn', by rw [hfl', hf2]⟩

theorem Inv.congr {c c' : CF} {L : List Path} (h : Inv c L) (hd : c'.dirs = c.dirs) (hc : c'.count = c.count) :
    Inv c' L := by
  have hg : ∀ d, getCount c' d = getCount c d := getCount_congr c c' hc
  exact ⟨h.nodupL, hd ▸ h.nodupD, fun d => by rw [hd]; exact h.dirs d, fun d => by rw [hg, hd]; exact h.count d,
    fun d => by rw [hg, hd]; exact h.pos d⟩

theorem visit_nodup (c : CF) (parent : Path) (h : ∀ d, (getSub c d).Nodup) :
    (∀ d, (getSub (visit c parent) d).Nodup) ∧ (visit c parent).files = c.files :=
  ⟨addToSub_nodup _ parent h, (addToSub_fields _ _).2.2⟩

theorem startedLoop_nodup (c : CF) (parent : Path) (h : ∀ d, (getSub c d).Nodup) :
    (∀ d, (getSub (startedLoop c parent) d).Nodup) ∧ (startedLoop c parent).files = c.files :=
  startedLoop_rel
    (fun c _ c' => (∀ d, (getSub c d).Nodup) → (∀ d, (getSub c' d).Nodup) ∧ c'.files = c.files)
    (fun _ _ _ h => ⟨h, rfl⟩) (fun c _ h => visit_nodup c [] h)
    (fun c parent _ _ _ ih h => ⟨(ih (visit_nodup c parent h).1).1, (ih (visit_nodup c parent h).1).2.trans (visit_nodup c parent h).2⟩)
    c parent h

/-- **`started_building_file`** keeps the invariant, for the live set enlarged by the new file -/
theorem started_full (c : CF) (L : List Path) (p : Path) (h : Full c L) (hp : p ≠ []) (hnew : p ∉ L)
    (hanti : ∀ q ∈ L, ¬ properAnc p q ∧ ¬ properAnc q p) : Full (started c p) (p :: L) := by
  have hst : started c p = startedLoop c p.dropLast := by
    unfold started
    cases p with
    | nil => exact absurd rfl hp
    | cons a r => rfl
  rw [hst]
  have haux := startedLoop_nodup c p.dropLast h.subNodup
  refine ⟨startedLoop_spec L p c p (preS_init h.inv hnew) hp, startedLoop_subInv c _ h.sub, haux.1, ?_, ?_⟩
  · intro x hx
    rw [haux.2] at hx
    exact List.mem_cons_of_mem _ (h.filesLive x hx)
  · intro x hx y hy
    by_cases hxp : x = p
    · subst hxp
      by_cases hyp : y = x
      · subst hyp; exact fun ha => ha.2 rfl
      · exact (hanti y ((List.mem_cons.mp hy).resolve_left hyp)).1
    · have hx' : x ∈ L := (List.mem_cons.mp hx).resolve_left hxp
      by_cases hyp : y = p
      · subst hyp; exact (hanti x hx').2
      · exact h.antichain x hx' y ((List.mem_cons.mp hy).resolve_left hyp)

theorem finished_files (c : CF) (p : Path) : ∀ x, x ∈ (finished c p).files → x ∈ c.files ∨ x = p := by
  intro x hx
  rw [finished, (addToSub_fields _ _).2.2] at hx
  exact (mem_ite_cons _ _ _).mp hx

/-- **`finished_building_file`** of a live file keeps the invariant -/
theorem finished_full (c : CF) (L : List Path) (p : Path) (h : Full c L) (hp : p ∈ L) : Full (finished c p) L := by
  refine ⟨?_, ?_, ?_, fun x hx => (finished_files c p x hx).elim (h.filesLive x) (fun e => e ▸ hp), h.antichain⟩
  · exact h.inv.congr (addToSub_fields _ p).1 (addToSub_fields _ p).2.1
  · exact subInv_add c _ p h.sub (fun x => by rw [mem_ite_cons, or_right_comm]) rfl
  · exact addToSub_nodup _ p h.subNodup

/-- **`error_building_file`** of a live, unfinished file never raises `KeyError` and keeps the invariant, for
    the live set without that file -/
theorem error_full (c : CF) (L : List Path) (p : Path) (h : Full c L) (hp : p ∈ L) (hne : p ≠ [])
    (hnf : p ∉ c.files) : ∃ c', error c p = some c' ∧ Full c' (L.erase p) ∧ c'.files = c.files := by
  have hst : error c p = errorLoop c p.dropLast := by
    unfold error
    cases p with
    | nil => exact absurd rfl hne
    | cons a r => rfl
  rw [hst]
  obtain ⟨c', hc', hinv', hs', hn', hf'⟩ := errorLoop_spec (L.erase p) p c p (preE_init h hp) hne
  refine ⟨c', hc', ⟨hinv', hs', hn', ?_, ?_⟩, hf'⟩
  · intro x hx
    rw [hf'] at hx
    have : x ≠ p := fun e => hnf (e ▸ hx)
    exact (List.mem_erase_of_ne this).mpr (h.filesLive x hx)
  · intro x hx y hy
    exact h.antichain x (List.mem_of_mem_erase hx) y (List.mem_of_mem_erase hy)

theorem started_files (c : CF) (p : Path) (h : ∀ d, (getSub c d).Nodup) : (started c p).files = c.files := by
  unfold started
  cases p with
  | nil => rfl
  | cons a r => exact (startedLoop_nodup c _ h).2

/-- the documented use of `CreatedFiles` (`L`: live files, `F`: finished files): start a fresh file that is
    neither above nor below a live one; finish a live file; fail a live file that was not finished -/
inductive WF : List Path → List Path → List Cmd → List Path → Prop
  | nil (L F) : WF L F [] L
  | started (L F p rest L') : p ≠ [] → p ∉ L → (∀ q ∈ L, ¬ properAnc p q ∧ ¬ properAnc q p) →
      WF (p :: L) F rest L' → WF L F (.started p :: rest) L'
  | finished (L F p rest L') : p ∈ L → WF L (p :: F) rest L' → WF L F (.finished p :: rest) L'
  | error (L F p rest L') : p ∈ L → p ≠ [] → p ∉ F → WF (L.erase p) F rest L' → WF L F (.error p :: rest) L'

/-- **`created_files.py` is correct**: over every command sequence within the documented use it never raises
    (`run` never yields `none` = `KeyError`) and ends in a state satisfying the invariant — in particular
    `_norm_cased_dirs` is exactly the set of proper ancestors of the live files and every started count is the
    number of reserved children. -/
theorem run_full : ∀ (cmds : List Cmd) (c : CF) (L F L' : List Path), Full c L → (∀ x ∈ c.files, x ∈ F) →
    WF L F cmds L' → ∃ c', run c cmds = some c' ∧ Full c' L' := by
  intro cmds
  induction cmds with
  | nil =>
    intro c L F L' h _ hw
    cases hw
    exact ⟨c, rfl, h⟩
  | cons x rest ih =>
    intro c L F L' h hF hw
    cases hw with
    | started _ _ p _ _ hp hnew hanti hrest =>
      simp only [run, step]
      exact ih _ _ _ _ (started_full c L p h hp hnew hanti)
        (fun x hx => hF x (by rw [started_files c p h.subNodup] at hx; exact hx)) hrest
    | finished _ _ p _ _ hp hrest =>
      simp only [run, step]
      exact ih _ _ _ _ (finished_full c L p h hp)
        (fun x hx => by
          rcases finished_files c p x hx with h' | rfl
          · exact List.mem_cons_of_mem _ (hF x h')
          · exact List.mem_cons_self ..) hrest
    | error _ _ p _ _ hp hne hnF hrest =>
      obtain ⟨c', hc', hfull', hfiles⟩ := error_full c L p h hp hne (fun hf => hnF (hF p hf))
      simp only [run, step, hc']
      exact ih _ _ _ _ hfull' (fun x hx => hF x (hfiles ▸ hx)) hrest

/-- the hypotheses are satisfiable: a successful file, a sibling that fails, a deeper one that stays -/
example : ∃ c', run {} [.started ["a", "x"], .finished ["a", "x"], .started ["a", "y"], .error ["a", "y"],
      .started ["a", "b", "z"]] = some c' ∧ Full c' [["a", "b", "z"], ["a", "x"]] := by
  apply run_full _ _ [] [] _ full_empty (fun x hx => nomatch hx)
  refine .started _ _ _ _ _ (by simp) (by simp) (by simp) ?_
  refine .finished _ _ _ _ _ (by simp) ?_
  refine .started _ _ _ _ _ (by simp) (by simp) (by
    intro q hq
    simp only [List.mem_singleton] at hq
    subst hq
    constructor <;> rintro ⟨⟨t, ht⟩, _⟩ <;> simp at ht) ?_
  refine .error _ _ _ _ _ (by simp) (by simp) (by simp) ?_
  refine .started _ _ _ _ _ (by simp) (by simp) (by
    intro q hq
    have : q = ["a", "x"] := by simpa using hq
    subst this
    constructor <;> rintro ⟨⟨t, ht⟩, _⟩ <;> simp at ht) ?_
  exact .nil _ _

end CreatedFiles
end FB

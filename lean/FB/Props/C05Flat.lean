/-
  C05 — completeness of reuse for *flat* programs: a root function that queries, and calls `build_file` and
  `subbuild` whose functions make no nested calls (the common shape: one function per output, reading inputs and
  writing its target).  If a first build (no cache) ran such a program with every call succeeding, then a
  second run of the same program in a state that looks the same, whose cache holds the records of the first
  and whose shelf still holds the outputs as the first build left them, invokes NO user function and returns
  the same value.
-/
import FB.Props.C05Tree
import FB.Props.C01Hash
namespace FB
open FS Spec Impl

/-- programs whose nested calls are all leaf calls -/
inductive Flat : Prog → Prop
  | ret (v : PyVal) : Flat (.ret v)
  | raise (e : Exc) : Flat (.raise e)
  | query (q : Query) (k : UAns → Prog) : (∀ a, Flat (k a)) → Flat (.query q k)
  | write (b : String) (mt : Option Nat) (k : Prog) : Flat k → Flat (.write b mt k)
  | buildFile (path : Path) (cmp : Cmp) (fname : String) (args kwargs : Json) (body : Prog) (k : CallRes → Prog) :
      Leaf body → isEqual args args = true → isEqual kwargs kwargs = true → (∀ r, Flat (k r)) →
      Flat (.buildFile path cmp fname args kwargs body k)
  | subbuild (fname : String) (args kwargs : Json) (body : Prog) (k : CallRes → Prog) :
      Leaf body → (∀ r, Flat (k r)) → Flat (.subbuild fname args kwargs body k)

/-- the successful top-level `build_file` records of a record list, with their paths -/
def topOuts : List Op → List Path
  | [] => []
  | .buildFile p _ _ _ _ _ _ _ false false _ :: r => p :: topOuts r
  | _ :: r => topOuts r

def opOk : Op → Bool
  | .buildFile _ _ _ _ _ _ _ _ raised sf _ => !raised && !sf
  | .subbuild _ _ _ _ _ raised sf => !raised && !sf
  | .simple _ _ _ _ => true

/-- the cache holds the record `o` under its key -/
def cachedIn (old : CacheRec) : Op → Prop
  | .buildFile p c f a k subs r cr raised sf ct => old.getFile p = some (.buildFile p c f a k subs r cr raised sf ct)
  | .subbuild f a k subs r raised sf => old.getSub (subKey f a k) = some (.subbuild f a k subs r raised sf)
  | .simple _ _ _ _ => True

theorem flat_keeps {prog : Prog} (hflat : Flat prog) : ∀ (s : KSt), s.old.roots = [] → s.sp.failFiles = [] →
    s.sp.failSubs = [] → FirstKeeps s (Impl.run prog none s).2.1 :=
  fun s => run_keeps prog none s

theorem topOuts_simple (q : Query) (r : Json) (e : Option OSErr) (a : UAns) (l : List Op) :
    topOuts (.simple q r e a :: l) = topOuts l := rfl

theorem topOuts_sub (f : String) (a k : Json) (subs : List Op) (r : Json) (x y : Bool) (l : List Op) :
    topOuts (.subbuild f a k subs r x y :: l) = topOuts l := rfl

theorem topOuts_bf_ok (p : Path) (c : Cmp) (f : String) (a k : Json) (subs : List Op) (r cr : Json) (ct : String) (l : List Op) :
    topOuts (.buildFile p c f a k subs r cr false false ct :: l) = p :: topOuts l := rfl

theorem versionOk_keep {s' s'' : KSt} (h1 : s''.old = s'.old) (h2 : s''.newVersions = s'.newVersions)
    (hv : ∀ f, versionOk s' f = true) (f : String) : versionOk s'' f = true :=
  (versionOk_congr h1 h2 f).trans (hv f)

theorem FirstRun.flat_second {prog : Prog} {t : Option Path} {s e : KSt} {r : CallRes} {ops : List Op}
    (h : FirstRun prog t s r e ops) : Flat prog → ∀ s' : KSt, Same s s' → (∀ f, versionOk s' f = true) →
    (∀ o ∈ ops, opOk o = true) → (∀ o ∈ ops, cachedIn s'.old o) → Antichain (topOuts ops) →
    (∀ p ∈ topOuts ops, s'.shelf.get p = e.sp.fs.get p) →
    (Impl.run prog t s').1 = r ∧ (Impl.run prog t s').2.1.sp.invLog = s'.sp.invLog ∧ Same e (Impl.run prog t s').2.1 ∧
    (Impl.run prog t s').2.1.old = s'.old ∧ (Impl.run prog t s').2.1.newVersions = s'.newVersions := by
  induction h with
  | ret v t s => intro _ s' hsame _ _ _ _ _; rw [run_ret]; exact ⟨rfl, rfl, hsame, rfl, rfl⟩
  | raise x t s => intro _ s' hsame _ _ _ _ _; exact ⟨rfl, rfl, hsame, rfl, rfl⟩
  | query q k t s v x hrec _ ih =>
    intro hflat s' hsame hv hok hc hanti hsup
    cases hflat with
    | query _ _ hk =>
      have := ih (hk _) s' hsame hv (fun o ho => hok o (List.mem_cons_of_mem _ ho)) (fun o ho => hc o (List.mem_cons_of_mem _ ho))
        hanti hsup
      rw [Impl.run_query, hsame.visible, hsame.dirSize]
      exact this
  | writeOut b mt k s _ ih =>
    intro hflat s' hsame hv hok hc hanti hsup
    cases hflat with
    | write _ _ _ hk => rw [run_write_none]; exact ih hk s' hsame hv hok hc hanti hsup
  | writeIn b mt k p s _ ih =>
    intro hflat s' hsame hv hok hc hanti hsup
    cases hflat with
    | write _ _ _ hk =>
      rw [run_write_some]
      exact ih hk _ (hsame.of_seen rfl rfl) (versionOk_keep rfl rfl hv) hok hc hanti hsup
  | bfSetupFail path cmp fname args kwargs body k t s x hsetup _ _ =>
    -- a call that failed in its set-up is not among the successful ones
    intro _ s' _ _ hok _ _ _
    exact nomatch hok _ (List.mem_cons_self ..)
  | bfMiss path cmp fname args kwargs body k t s sp1 made rb sb subs r s2 ops s1 s3 hs1 hs3 hf hsetup hout hrest hf1 hkb hf3 hkr _ _ _ ihk =>
    subst hs1 hs3
    intro hflat s' hsame hv hok hc hanti hsup
    cases hflat with
    | buildFile _ _ _ _ _ _ _ hleaf hargs hkw hk =>
      obtain ⟨rfl, _, _, _, _, _⟩ := bfSetup_ok_fields s.sp sp1 path made hsetup
      obtain ⟨hne, hmade, hpm, _⟩ := bfSetup_ok_made _ _ _ _ hsetup
      have hsame1 := hsame.setup path made
      obtain ⟨⟨pend, clk, hst⟩, hrep⟩ := leaf_run_replays hleaf (some path)
        (missStart (afterSetup s (setupState s.sp path made) path made) path ⟨fname, some path, args, kwargs⟩)
      have hrep' := hrep (afterSetup s' (setupState s'.sp path made) path made) hsame1.visible hsame1.dirSize
      rw [hout] at hst hrep'
      replace hst : sb = _ := hst
      -- the call succeeded, and the file it wrote is still there at the end of the first run
      obtain ⟨j, hj⟩ : ∃ j, (bfFinish sb.sp path made rb).1 = .ok j := by
        cases hr : (bfFinish sb.sp path made rb).1 with
        | ok j => exact ⟨j, rfl⟩
        | error x => have := hok _ (List.mem_cons_self ..); simp [execFileOp, hr, opOk] at this
      obtain ⟨c, m, _, _, hfin⟩ := bfFinish_ok_inv sb.sp path made rb j hj
      rw [hj] at hok hc hanti hsup ihk
      rw [hfin] at hok hc hanti hsup hkr ihk
      rw [execFileOp_ok _ _ _ _ _ _ _ _ _ _ _ _ hne] at hok hc hanti hsup
      rw [topOuts_bf_ok] at hanti hsup
      have hfinal := hkr.files path c m (get_set_self _ _ _ hne) (hkb.claimed path (List.mem_cons_self ..))
      -- the second run: same set-up, then a hit
      have hshelf' : (afterSetup s' (setupState s'.sp path made) path made).shelf.get path = some (.file c m) := by
        rw [afterSetup_shelf _ _ _ _ hmade path (Or.inr rfl) (Or.inr rfl) hpm, hsup path (List.mem_cons_self ..)]
        exact hfinal
      have hlook' := lookupFile_hit' (afterSetup s' (setupState s'.sp path made) path made) _ path cmp fname args kwargs made
        subs j (View.cmpResult cmp c m) c c m c m (hc _ (List.mem_cons_self ..)) (hv fname) hargs hkw hne hshelf'
        (cmpResult_refl cmp c m) hrep' hshelf'
      rw [run_buildFile_hit (bfSetup_same hsame path _ made hsetup) hlook']
      have hsame2 : Same sb (afterSetup s' (setupState s'.sp path made) path made) := by
        rw [hst]; exact (hsame1.missStart_left _ _).setPC_left _ _
      have hanti' := List.pairwise_cons.mp hanti
      exact ihk (hk _) _ (hsame2.adopt path made c m hne hshelf') (versionOk_keep rfl rfl hv)
        (fun o ho => hok o (List.mem_cons_of_mem _ ho)) (fun o ho => hc o (List.mem_cons_of_mem _ ho)) hanti'.2
        (by
          intro q hq
          obtain ⟨hq1, hq2, hq3⟩ := hanti'.1 q hq
          show ((clearWay s'.shelf path made).erase path).get q = _
          rw [get_erase_ne _ _ _ (fun e => hq1 e.symm)]
          exact (afterSetup_shelf s' (setupState s'.sp path made) path made hmade q (Or.inl hq2) (Or.inl hq3) hpm).trans
            (hsup q (List.mem_cons_of_mem _ hq)))
  | sbDup fname args kwargs body k t s hcl _ _ =>
    -- a rejected duplicate is not among the successful calls
    intro _ s' _ _ hok _ _ _
    exact nomatch hok _ (List.mem_cons_self ..)
  | sbMiss fname args kwargs body k t s rb sb subs r s2 ops s1 hs1 hf hcl hout hrest hkb hf3 hkr _ _ _ ihk =>
    subst hs1
    intro hflat s' hsame hv hok hc hanti hsup
    cases hflat with
    | subbuild _ _ _ _ _ hleaf hk =>
      obtain ⟨⟨pend, clk, hst⟩, hrep⟩ := leaf_run_replays hleaf none
        (Impl.subStart (subClaim s (subKey fname args kwargs)) ⟨fname, none, args, kwargs⟩)
      have hrep' := hrep (subClaim s' (subKey fname args kwargs)) hsame.visible hsame.dirSize
      rw [hout] at hst hrep'
      replace hst : sb = _ := hst
      cases rb with
      | error x => exact nomatch hok _ (List.mem_cons_self ..)
      | ok j =>
        have hlook' := lookupSub_hit (subClaim s' (subKey fname args kwargs)) _ fname args kwargs subs j
          (hc _ (List.mem_cons_self ..)) (hv fname) hrep'
        rw [run_subbuild_hit (by rw [hsame.claimedSubs]; exact hcl) (by simp [hsame.fsb']) hlook']
        have hsame2 : Same sb (subClaim s' (subKey fname args kwargs)) := by
          rw [hst]; exact ((hsame.subClaim _).subStart_left _).setPC_left _ _
        exact ihk (hk _) _ hsame2 (versionOk_keep rfl rfl hv)
          (fun o ho => hok o (List.mem_cons_of_mem _ ho)) (fun o ho => hc o (List.mem_cons_of_mem _ ho)) hanti hsup

/-- **C05 for flat programs**: a second run in a state that looks the same, with the records of the first run in
    the cache and its outputs on the shelf, invokes nothing and returns the same value -/
theorem flat_second_run {prog : Prog} (hflat : Flat prog) : ∀ (s s' : KSt),
    s.old.roots = [] → Same s s' → (∀ f, versionOk s' f = true) →
    (∀ o ∈ (Impl.run prog none s).2.2, opOk o = true) →
    (∀ o ∈ (Impl.run prog none s).2.2, cachedIn s'.old o) →
    Antichain (topOuts (Impl.run prog none s).2.2) →
    (∀ p ∈ topOuts (Impl.run prog none s).2.2, s'.shelf.get p = (Impl.run prog none s).2.1.sp.fs.get p) →
    (Impl.run prog none s').1 = (Impl.run prog none s).1 ∧
    (Impl.run prog none s').2.1.sp.invLog = s'.sp.invLog ∧
    Same (Impl.run prog none s).2.1 (Impl.run prog none s').2.1 ∧
    (Impl.run prog none s').2.1.old = s'.old ∧ (Impl.run prog none s').2.1.newVersions = s'.newVersions :=
  fun s s' h0 hsame => (firstRun prog none s ⟨h0, hsame.ff, hsame.fsb⟩).flat_second hflat s' hsame

/-! ### non-vacuity: the program of `C01Hash` (one leaf `build_file`), first run from an empty state, second run
    with its record in the cache and its output on the shelf -/

def fxS : KSt := { sp := { fs := [], cacheFile := ["c"], dirSize := 4096, clock := 7 }, old := { buildName := "n" } }
def fxOps : List Op := (Impl.run exRoot none fxS).2.2
def fxS' : KSt := { sp := { fs := [], cacheFile := ["c"], dirSize := 4096, clock := 99 },
                    old := { buildName := "n", roots := fxOps }, shelf := [(["x"], .file "o" 7)] }

theorem flat_exRoot : Flat exRoot :=
  .buildFile _ _ _ _ _ _ _ (.write _ _ _ (.ret _)) (by simp [isEqual]) (by simp [isEqual]) (fun _ => .ret _)

theorem fx_run : (Impl.run exRoot none fxS).2.2 = [.buildFile ["x"] .hash "f" .null .null [] .null (.str "sha:o") false false "o"] ∧
    (Impl.run exRoot none fxS).2.1.sp.fs.get ["x"] = some (.file "o" 7) ∧ (Impl.run exRoot none fxS).2.1.sp.invLog.length = 1 ∧
    (Impl.run exRoot none fxS).2.1.sp.claimedFiles = [["x"]] ∧ (Impl.run exRoot none fxS).2.1.sp.createdDirs = [] ∧
    (Impl.run exRoot none fxS).1 = .ok .null := by
  have h : dirsToMake (visible fxS.sp) fxS.sp.cacheFile fxS.sp.inProg [] = .ok [] := by rw [dirsToMake]; simp
  simp [exRoot, exBody, Impl.run, bfSetup, fxS, FS.isDir, FS.get, lookupFile, CacheRec.getFile, registeredL,
    afterSetup, missStart, liftSp, sanitize, bfFinish, pendingFind, withSp, cmpBuilt, View.cmpResult, setupState, mkdirs,
    FS.isFile, FS.set, FS.erase, clearWay] at h ⊢
  rw [h]
  simp [pendingFind, FS.set, FS.erase, FS.get, cmpBuilt, View.cmpResult, withSp]

theorem fx_first : (Impl.run exRoot none fxS).2.2 = [.buildFile ["x"] .hash "f" .null .null [] .null (.str "sha:o") false false "o"] ∧
    (Impl.run exRoot none fxS).2.1.sp.fs.get ["x"] = some (.file "o" 7) ∧ (Impl.run exRoot none fxS).2.1.sp.invLog.length = 1 :=
  ⟨fx_run.1, fx_run.2.1, fx_run.2.2.1⟩

example : (Impl.run exRoot none fxS').2.1.sp.invLog = [] ∧ (Impl.run exRoot none fxS).2.1.sp.invLog.length = 1 := by
  obtain ⟨hops, hfs, hlen⟩ := fx_first
  have h := flat_second_run flat_exRoot fxS fxS' rfl
    ⟨rfl, rfl, rfl, rfl, rfl, rfl, rfl, rfl, rfl, rfl⟩
    (fun f => by simp [versionOk, fxS', verOf, isEqual])
    (by rw [hops]; intro o ho; simp at ho; subst ho; rfl)
    (by rw [hops]; intro o ho; simp at ho; subst ho
        simp [cachedIn, fxS', fxOps, CacheRec.getFile, hops, registeredL, registered, Op.isFileAt])
    (by rw [hops]; simp [topOuts, Antichain])
    (by
      rw [hops]; intro p hp; simp [topOuts] at hp; subst hp
      rw [hfs]; simp [fxS', FS.get])
  exact ⟨h.2.1, hlen⟩
end FB

/-
  C04 — the reference model's start-of-build tree (`Spec.preClean`: erase the old outputs and the cache file,
  then `rmdir` the old created directories deepest first) removes exactly the directories that are `Gone`
  (`FB.BuildDirs.Gone`, the declarative notion the memoised scan of `build_dirs.py` is proved to decide).
  Hence what `SimpleOperationExecutor` answers at the start of a build (`C04_start_exists`) is what the
  reference model's tree says.
-/
import FB.Props.C02Rollback
import FB.Props.C04Start
import FB.Props.C12
namespace FB
namespace BuildDirs
open FS Spec

/-- the tree after the two erasing steps of `preClean` -/
def erased (fs : FS) (cf : Path) (outputs : List Path) : FS :=
  let fs1 := outputs.foldl (fun fs p => if fs.isFile p then fs.erase p else fs) fs
  if fs1.isFile cf then fs1.erase cf else fs1

theorem preClean_eq (fs : FS) (cf : Path) (r : Rec) : preClean fs cf r = rmEmpty (erased fs cf r.outputs) r.createdDirs := rfl

theorem erased_get (fs : FS) (cf : Path) (outputs : List Path) (q : Path) :
    (erased fs cf outputs).get q = if q ∈ outputs ++ [cf] ∧ fs.isFile q = true then none else fs.get q := by
  rw [← get_eraseFiles, List.foldl_append]
  rfl

theorem isFile_of_exists_not_dir {fs : FS} {q : Path} (hex : fs.get q ≠ none) (h : fs.isDir q = false) : fs.isFile q = true := by
  unfold FS.isDir at h; unfold FS.isFile
  cases hg : fs.get q with
  | none => exact absurd hg hex
  | some e =>
    cases e with
    | dir => rw [hg] at h; cases h
    | file c m => rfl


/-- the invariant of the `rmdir` fold: every path is bound as in `fs2`, or was an old directory that is `Gone` and
    is removed -/
theorem foldl_rmdir_only_gone (fs fs2 : FS) (dirs files : List Path) (hwf : TreeWF fs) (hv : Valid dirs files)
    (herased : ∀ q, fs2.get q = if q ∈ files ∧ fs.isFile q = true then none else fs.get q) :
    ∀ (l : List Path) (cur : FS), (∀ x ∈ l, x ∈ dirs) →
      (∀ q, cur.get q = fs2.get q ∨ (fs2.get q = some .dir ∧ q ∈ dirs ∧ Gone fs dirs files q ∧ cur.get q = none)) →
      ∀ q, (l.foldl rmdirStep cur).get q = fs2.get q ∨
        (fs2.get q = some .dir ∧ q ∈ dirs ∧ Gone fs dirs files q ∧ (l.foldl rmdirStep cur).get q = none) := by
  intro l
  induction l with
  | nil => intro cur _ h q; exact h q
  | cons d rest ih =>
    intro cur hl hinv
    simp only [List.foldl]
    apply ih (rmdirStep cur d) (fun x hx => hl x (List.mem_cons_of_mem _ hx))
    intro q
    rcases rmdirStep_get cur d q with h' | ⟨hqd, hdir, hempty, hnone⟩
    · rw [h']; exact hinv q
    · subst hqd
      right
      -- `q` was a directory without entries in `cur`
      have hq2 : fs2.get q = some .dir := by
        rcases hinv q with h1 | ⟨_, _, _, h4⟩
        · rw [← h1, hdir]
        · rw [hdir] at h4; cases h4
      have hqfs : fs.get q = some .dir := by
        rw [herased] at hq2
        split at hq2
        · cases hq2
        · exact hq2
      refine ⟨hq2, hl q (List.mem_cons_self ..), ?_, hnone⟩
      have hchild : ∀ n, n ∈ fs.listdir q → GoneChild fs dirs files (q ++ [n]) := by
        intro n hn
        have hex : fs.get (q ++ [n]) ≠ none := (mem_listdir fs q n).mp hn
        have hcur : cur.get (q ++ [n]) = none := (childNames_eq_nil_iff cur q).mp hempty n
        rcases hinv (q ++ [n]) with h1 | ⟨_, h2, h3, _⟩
        · rw [hcur] at h1
          have h1' := h1.symm
          rw [herased] at h1'
          split at h1'
          · rename_i hc
            have hnd : (q ++ [n]) ∉ dirs := fun hd => hv _ hc.1 _ hd (List.prefix_refl _)
            have hisd : fs.isDir (q ++ [n]) = false := not_isDir_of_isFile hc.2
            exact Or.inr ⟨hnd, hc.1, hisd⟩
          · exact absurd h1' hex
        · exact Or.inl ⟨h2, h3⟩
      exact Gone.of_children fs dirs files (notUnderFile_of_exists hwf (by rw [hqfs]; simp)) hqfs hchild

/-- **`preClean` removes exactly the old directories that are `Gone`** -/
theorem preClean_gone_iff (fs : FS) (cf : Path) (r : Rec) (hwf : TreeWF fs) (hv : Valid r.createdDirs (r.outputs ++ [cf]))
    (hroot : ([] : Path) ∉ r.createdDirs) (d : Path) (hd : fs.isDir d = true) :
    (preClean fs cf r).get d = none ↔ d ∈ r.createdDirs ∧ Gone fs r.createdDirs (r.outputs ++ [cf]) d := by
  have herased := erased_get fs cf r.outputs
  have hdir_kept : ∀ x, fs.isDir x = true → (erased fs cf r.outputs).get x = some .dir := by
    intro x hx
    rw [herased, if_neg (fun h => by have := not_isDir_of_isFile h.2; rw [hx] at this; cases this)]
    exact isDir_iff.mp hx
  rw [preClean_eq]
  constructor
  · intro hnone
    have hinv := foldl_rmdir_only_gone fs (erased fs cf r.outputs) r.createdDirs (r.outputs ++ [cf]) hwf hv herased
      (r.createdDirs.mergeSort (fun a b => a.length ≥ b.length)) (erased fs cf r.outputs)
      (fun x hx => List.mem_mergeSort.mp hx) (fun q => Or.inl rfl) d
    rw [← rmEmpty_eq] at hinv
    rcases hinv with h1 | ⟨_, h2, h3, _⟩
    · rw [hnone, hdir_kept d hd] at h1; cases h1
    · exact ⟨h2, h3⟩
  · rintro ⟨hdm, hg⟩
    apply Rollback.rmEmpty_removes (fun x => x ∈ r.createdDirs ∧ Gone fs r.createdDirs (r.outputs ++ [cf]) x ∧ fs.isDir x = true)
      (erased fs cf r.outputs) r.createdDirs
    · intro x ⟨hx, _, hxd⟩
      exact ⟨fun e => hroot (e ▸ hx), Or.inr (hdir_kept x hxd)⟩
    · intro x ⟨_, hgx, hxd⟩ n hn
      have hex : fs.get (x ++ [n]) ≠ none := by
        intro e
        apply hn
        rw [herased]; split
        · rfl
        · exact e
      rcases hgx.children fs _ _ hwf n hex with ⟨h1, h2⟩ | ⟨_, h2, h3⟩
      · refine ⟨h1, h2, ?_⟩
        cases h2 with
        | absent _ _ hg0 => exact absurd hg0 hex
        | empty _ _ hg0 _ _ => simp [FS.isDir, hg0]
      · exfalso
        apply hn
        rw [herased]
        have : fs.isFile (x ++ [n]) = true := isFile_of_exists_not_dir hex h3
        simp [h2, this]
    · intro x ⟨hx, _, _⟩ _; exact hx
    · exact ⟨hdm, hg, hd⟩


theorem preClean_isFile_iff (fs : FS) (cf : Path) (r : Rec) (p : Path) :
    (preClean fs cf r).isFile p = true ↔ fs.isFile p = true ∧ p ∉ r.outputs ++ [cf] := by
  rw [preClean_eq, isFile_iff, isFile_iff]
  constructor
  · rintro ⟨c, m, hg⟩
    have h1 := rmEmpty_file_rev _ _ p c m hg
    rw [erased_get] at h1
    split at h1
    · cases h1
    · rename_i hc
      exact ⟨⟨c, m, h1⟩, fun hm => hc ⟨hm, isFile_iff.mpr ⟨c, m, h1⟩⟩⟩
  · rintro ⟨⟨c, m, hg⟩, hnm⟩
    refine ⟨c, m, rmEmpty_file _ _ p c m ?_⟩
    rw [erased_get, if_neg (fun h => hnm h.1)]
    exact hg

theorem preClean_isDir_iff (fs : FS) (cf : Path) (r : Rec) (hwf : TreeWF fs) (hv : Valid r.createdDirs (r.outputs ++ [cf]))
    (hroot : ([] : Path) ∉ r.createdDirs) (d : Path) :
    (preClean fs cf r).isDir d = true ↔
      fs.isDir d = true ∧ ¬ (d ∈ r.createdDirs ∧ Gone fs r.createdDirs (r.outputs ++ [cf]) d) := by
  rw [isDir_iff]
  have hframe := C12_preClean_frame fs cf r d
  constructor
  · intro hg
    have hd : fs.isDir d = true := by
      rcases hframe with h1 | ⟨h1, _⟩
      · rw [isDir_iff, ← h1, hg]
      · rw [hg] at h1; cases h1
    refine ⟨hd, fun hgone => ?_⟩
    have := (preClean_gone_iff fs cf r hwf hv hroot d hd).mpr hgone
    rw [hg] at this; cases this
  · rintro ⟨hd, hng⟩
    rcases hframe with h1 | ⟨h1, _⟩
    · rw [h1]; exact isDir_iff.mp hd
    · exact absurd ((preClean_gone_iff fs cf r hwf hv hroot d hd).mp h1) hng

end BuildDirs

namespace Overlay
open BuildDirs Spec

/-- **C04, start of a build: the algorithm answers what the reference model's tree says.**
    `SimpleOperationExecutor.is_file/is_dir` on top of the memoising `BuildDirs` (constructed, as `FileBuilder`
    does, from the previous build's created directories and its outputs plus the cache file), in every state
    reachable by such queries, return exactly `isFile`/`isDir` of `Spec.preClean` — the tree `FB.Spec` starts
    every build from. -/
theorem C04_start_matches_spec (c : Ctx) (r : Rec) (hs : AtStart c (r.outputs ++ [c.cacheFile])) (hwf : TreeWF c.fs)
    (hv : Valid r.createdDirs (r.outputs ++ [c.cacheFile])) (hroot : ([] : Path) ∉ r.createdDirs)
    (b : BD) (hb : QReach c.fs r.createdDirs (r.outputs ++ [c.cacheFile]) b) (p : Path) :
    (isFile c b p).1 = (preClean c.fs c.cacheFile r).isFile p ∧
    ∀ rr b', isDir c b p = some (rr, b') → rr = (preClean c.fs c.cacheFile r).isDir p := by
  constructor
  · exact Bool.eq_iff_iff.mpr ((start_isFile c r.createdDirs _ hs hwf b hb p).1.trans
      (preClean_isFile_iff c.fs c.cacheFile r p).symm)
  · intro rr b' hrun
    exact Bool.eq_iff_iff.mpr ((start_isDir c r.createdDirs _ hs hwf hv b hb p rr b' hrun).1.trans
      (preClean_isDir_iff c.fs c.cacheFile r hwf hv hroot p).symm)

end Overlay
end FB

/-
  C04 — laws of the view build functions get (model: `FB.View` on the tree `Spec.visible s`, which
  `Impl.run` uses verbatim).  That the Python's memoised BuildDirs/CreatedFiles machinery computes
  this view is not proved here; it is tied by the correspondence check on every answer.
-/
import FB.Lemmas.Spec
import FB.Lemmas.Sort
namespace FB
open FS Spec

/-- C04: `exists = is_file or is_dir`. -/
theorem C04_exists_iff (fs : FS) (p : Path) :
    View.exists_ fs p = (fs.isFile p || fs.isDir p) := rfl

/-- C04: nothing is both a regular file and a directory. -/
theorem C04_not_both (fs : FS) (p : Path) : ¬ (fs.isFile p = true ∧ fs.isDir p = true) := by
  unfold isFile isDir
  cases fs.get p with
  | none => simp
  | some e => cases e <;> simp

/-- C04: `list_dir(d)` is exactly the set of names `n` with `exists(d/n)`. -/
theorem C04_listDir_iff (fs : FS) (d : Path) (ns : List String) (h : View.listDir fs d = .ok ns)
    (n : String) : n ∈ ns ↔ View.exists_ fs (d ++ [n]) = true := by
  unfold View.listDir at h
  split at h
  · simp only [Except.ok.injEq] at h
    subst h
    simp only [View.names, List.mem_filter]
    constructor
    · exact fun h => h.2
    · intro hx
      refine ⟨?_, hx⟩
      rw [listdir, mem_sortStrs', mem_childNames]
      have hne : d ++ [n] ≠ [] := by simp
      simp only [View.exists_, isFile, isDir, Bool.or_eq_true] at hx
      cases hg : fs.get (d ++ [n]) with
      | none => simp [hg] at hx
      | some e => exact ⟨e, mem_of_get fs _ e hne hg⟩
  · split at h <;> cases h

/-- C04: the error class of `list_dir` follows the other answers. -/
theorem C04_listDir_errors (fs : FS) (d : Path) :
    (fs.isDir d = false ∧ fs.isFile d = true → View.listDir fs d = .error .notADir) ∧
    (fs.isDir d = false ∧ fs.isFile d = false → View.listDir fs d = .error .notFound) := by
  constructor <;> (rintro ⟨h1, h2⟩; simp [View.listDir, h1, h2])

/-- C04 (atomic output): while a `build_file` function runs, its target does not exist for any
    query; the cache file never exists for any query. -/
theorem C04_hidden (s : SpecSt) (p : Path) (h : p ∈ s.inProg ∨ p = s.cacheFile) (hp : p ≠ []) :
    View.exists_ (visible s) p = false ∧
    View.answer s.dirSize (visible s) (.isFile p) = .ok (.bool false) ∧
    View.answer s.dirSize (visible s) (.exists_ p) = .ok (.bool false) := by
  have hnone : (visible s).get p = none := by rw [get_visible, if_pos ⟨h, hp⟩]
  simp [View.exists_, View.answer, View.recVal, isFile, isDir, hnone]

/-- C04: what is not hidden is seen as it is on the tree. -/
theorem C04_visible_elsewhere (s : SpecSt) (p : Path) (h1 : p ∉ s.inProg) (h2 : p ≠ s.cacheFile) :
    (visible s).get p = s.fs.get p := by
  rw [get_visible, if_neg (fun h => h.1.elim h1 h2)]

end FB

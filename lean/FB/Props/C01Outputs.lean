/-
  The outputs a run registers in its records are the outputs its state lists: the cache file written by
  the cache logic names the same output files as the record of the from-scratch build.
-/
import FB.Props.C01Next
namespace FB
open FS Spec

def outOf : Op → Option Path
  | .buildFile p _ _ _ _ _ _ _ false _ _ => some p
  | _ => none

/-- the output paths recorded in a forest (`Cache.created_files`) -/
def outsL (ops : List Op) : List Path := (registeredL ops).filterMap outOf

theorem CacheRec.outputs_eq (c : CacheRec) : c.outputs = outsL c.roots := by
  unfold CacheRec.outputs outsL
  congr 1

theorem outsL_nil : outsL [] = [] := rfl

theorem outsL_cons (o : Op) (os : List Op) : outsL (o :: os) = (registered o).filterMap outOf ++ outsL os := by
  rw [outsL, registeredL_cons, List.filterMap_append]; rfl

theorem outs_buildFile (p : Path) (c : Cmp) (f : String) (a k : Json) (subs : List Op) (r cr : Json)
    (raised : Bool) (ct : String) :
    (registered (.buildFile p c f a k subs r cr raised false ct)).filterMap outOf =
      outsL subs ++ (if raised then [] else [p]) := by
  rw [registered_buildFile, List.filterMap_append, outsL]
  cases raised <;> rfl

theorem outs_subbuild (f : String) (a k : Json) (subs : List Op) (r : Json) (raised : Bool) :
    (registered (.subbuild f a k subs r raised false)).filterMap outOf = outsL subs := by
  rw [registered_subbuild, List.filterMap_append, outsL]
  exact List.append_nil _

theorem outs_execFileOp (path : Path) (cmp : Cmp) (fname : String) (args kwargs : Json) (subs : List Op)
    (rb r' : CallRes) (s3 : KSt) :
    (registered (Impl.execFileOp path cmp fname args kwargs subs rb r' s3)).filterMap outOf =
      outsL subs ++ (match r' with | .ok _ => [path] | .error _ => []) := by
  cases r' <;> exact outs_buildFile ..

theorem outs_execSubOp (fname : String) (args kwargs : Json) (subs : List Op) (rb : CallRes) :
    (registered (Impl.execSubOp fname args kwargs subs rb)).filterMap outOf = outsL subs := by
  cases rb <;> exact outs_subbuild ..

mutual
/-- replay lists the outputs of the record (a state lists its outputs newest first, a record oldest first) -/
theorem replayOp_outputs : (o : Op) → (s s' : KSt) → Impl.replayOp o s = some s' →
    s'.sp.outputs = ((registered o).filterMap outOf).reverse ++ s.sp.outputs
  | .simple _ _ _ _, s, s', h => by
    obtain ⟨rfl, _⟩ := replayOp_simple_some _ _ _ _ _ _ h
    rw [registered_simple]; rfl
  | .buildFile path cmp fname args kwargs subs ret cmpRes raised sf content, s, s', h => by
    obtain ⟨_, _, rfl, _, _, _, made, s2, _, _, hs2, rfl⟩ := replayOp_buildFile_some _ _ _ _ _ _ _ _ _ _ _ _ _ h
    have ih : s2.sp.outputs = (outsL subs).reverse ++ s.sp.outputs :=
      replayOps_outputs subs (replayS1 s path made raised) s2 hs2
    rw [outs_buildFile, List.reverse_append]
    cases raised
    · show path :: s2.sp.outputs = _
      rw [ih]; rfl
    · exact ih
  | .subbuild fname args kwargs subs ret raised sf, s, s', h => by
    obtain ⟨_, rfl, _, hs⟩ := replayOp_subbuild_some _ _ _ _ _ _ _ _ _ h
    rw [outs_subbuild]
    exact replayOps_outputs subs (Impl.subClaim s (subKey fname args kwargs)) s' hs
theorem replayOps_outputs : (os : List Op) → (s s' : KSt) → Impl.replayOps os s = some s' →
    s'.sp.outputs = (outsL os).reverse ++ s.sp.outputs
  | [], s, s', h => by
    cases h; rfl
  | o :: os, s, s', h => by
    obtain ⟨sm, h1, h2⟩ := (replayOps_cons o os s s').mp h
    rw [replayOps_outputs os sm s' h2, replayOp_outputs o s sm h1, outsL_cons, List.reverse_append,
      List.append_assoc]
end



theorem outputs_step (op : Op) (ops : List Op) (s s1 s' : KSt)
    (hop : s1.sp.outputs = ((registered op).filterMap outOf).reverse ++ s.sp.outputs)
    (hreg : Impl.isComplexRegistered op = false → registered op = [])
    (ih : s'.sp.outputs = (outsL ops).reverse ++ s1.sp.outputs ∧
      ∀ o ∈ ops, Impl.isComplexRegistered o = false → registered o = []) :
    s'.sp.outputs = (outsL (op :: ops)).reverse ++ s.sp.outputs ∧
      ∀ o ∈ op :: ops, Impl.isComplexRegistered o = false → registered o = [] := by
  refine ⟨?_, fun o ho => ?_⟩
  · rw [ih.1, hop, outsL_cons, List.reverse_append, List.append_assoc]
  · rcases List.mem_cons.mp ho with rfl | ho
    · exact hreg
    · exact ih.2 o ho

/-- a `build_file` call: the state after it has gained the outputs its record registers (`ihb`: this holds of what
    its function does) -/
theorem fileCall_outputs {s s' : KSt} {path : Path} {cmp : Cmp} {fname : String} {args kwargs : Json} {body : Prog}
    {r : CallRes} {op : Op} (h : Impl.FileCall s path cmp fname args kwargs body r s' op)
    (ihb : ∀ s1, (Impl.run body (some path) s1).2.1.sp.outputs =
      (outsL (Impl.run body (some path) s1).2.2).reverse ++ s1.sp.outputs) :
    s'.sp.outputs = ((registered op).filterMap outOf).reverse ++ s.sp.outputs ∧
      (Impl.isComplexRegistered op = false → registered op = []) := by
  cases h with
  | refused e hs => exact ⟨rfl, fun _ => rfl⟩
  | served sp1 made subs ret now content s2 hs hl =>
    obtain ⟨_, _, _, _, subs', _, _, _, _, s2', -, -, -, -, -, hrep, -, hop, rfl⟩ := lookupFile_full _ _ _ _ _ _ _ _ _ hl
    injection hop with _ _ _ _ _ hsubs
    subst hsubs
    obtain ⟨rfl, -⟩ := bfSetup_ok_fields _ _ _ _ hs
    refine ⟨?_, fun h => nomatch h⟩
    rw [outs_buildFile, List.reverse_append]
    show path :: s2'.sp.outputs = _
    rw [replayOps_outputs subs _ s2' hrep]
    rfl
  | executed sp1 made out hs hl hout =>
    obtain ⟨rfl, -⟩ := bfSetup_ok_fields _ _ _ _ hs
    have hb := ihb (Impl.missStart (Impl.afterSetup s (setupState s.sp path made) path made) path
      ⟨fname, some path, args, kwargs⟩)
    rw [hout] at hb
    refine ⟨?_, fun h => ?_⟩
    · show (bfFinish out.2.1.sp path made out.1).2.outputs = _
      rw [bfFinish_outputs, outs_execFileOp, List.reverse_append, hb]
      cases (bfFinish out.2.1.sp path made out.1).1 <;> rfl
    · rw [Impl.isComplexRegistered_execFileOp] at h; cases h

theorem subCall_outputs {s s' : KSt} {fname : String} {args kwargs : Json} {body : Prog} {r : CallRes} {op : Op}
    (h : Impl.SubCall s fname args kwargs body r s' op)
    (ihb : ∀ s1, (Impl.run body none s1).2.1.sp.outputs =
      (outsL (Impl.run body none s1).2.2).reverse ++ s1.sp.outputs) :
    s'.sp.outputs = ((registered op).filterMap outOf).reverse ++ s.sp.outputs ∧
      (Impl.isComplexRegistered op = false → registered op = []) := by
  cases h with
  | dup h1 => exact ⟨rfl, fun _ => rfl⟩
  | fault h1 h2 => exact ⟨rfl, fun _ => rfl⟩
  | served subs ret s2 h1 h2 hl =>
    obtain ⟨_, _, _, subs', _, _, -, -, hrep, hop⟩ := lookupSub_some _ _ _ _ _ _ hl
    injection hop with _ _ _ hsubs
    subst hsubs
    refine ⟨?_, fun h => nomatch h⟩
    rw [outs_subbuild]
    exact replayOps_outputs subs (Impl.subClaim s (subKey fname args kwargs)) s' hrep
  | executed out h1 h2 hl hout =>
    have hb := ihb (Impl.subStart (Impl.subClaim s (subKey fname args kwargs)) ⟨fname, none, args, kwargs⟩)
    rw [hout] at hb
    refine ⟨?_, fun h => ?_⟩
    · rw [outs_execSubOp]; exact hb
    · rw [Impl.isComplexRegistered_execSubOp] at h; cases h

/-- the outputs a run's state gains are those its records register, in the same order; and a top-level record
    that is not registered (a query; a call refused in its set-up, which has no sub-records) registers nothing -/
theorem run_outputs_eq (prog : Prog) : ∀ (t : Option Path) (s : KSt),
    (Impl.run prog t s).2.1.sp.outputs = (outsL (Impl.run prog t s).2.2).reverse ++ s.sp.outputs ∧
    ∀ o ∈ (Impl.run prog t s).2.2, Impl.isComplexRegistered o = false → registered o = [] := by
  induction prog with
  | ret v => intro t s; rw [Impl.run]; split <;> exact ⟨rfl, fun _ h => nomatch h⟩
  | raise e => intro t s; exact ⟨rfl, fun _ h => nomatch h⟩
  | query q k ih =>
    intro t s
    rw [Impl.run_query]
    have hq : registered (Impl.queryOp s q) = [] := by
      unfold Impl.queryOp; split <;> exact registered_simple ..
    exact outputs_step _ _ s s _ (by rw [hq]; rfl) (fun _ => hq) (ih _ t s)
  | write b mt k ih =>
    intro t s
    cases t with
    | none => rw [Impl.run]; exact ih none s
    | some p => rw [Impl.run]; exact ih (some p) _
  | buildFile path cmp fname args kwargs body k ihb ihk =>
    intro t s
    obtain ⟨r, s', op, hcall, hrun⟩ := Impl.run_buildFile_call s path cmp fname args kwargs body
    obtain ⟨hop, hreg⟩ := fileCall_outputs hcall fun s1 => (ihb (some path) s1).1
    rw [hrun]
    exact outputs_step _ _ s _ _ hop hreg (ihk _ t _)
  | subbuild fname args kwargs body k ihb ihk =>
    intro t s
    obtain ⟨r, s', op, hcall, hrun⟩ := Impl.run_subbuild_call s fname args kwargs body
    obtain ⟨hop, hreg⟩ := subCall_outputs hcall fun s1 => (ihb none s1).1
    rw [hrun]
    exact outputs_step _ _ s _ _ hop hreg (ihk _ t _)

/-- the records of a run register exactly the outputs its state gains; and dropping the unregistered top-level
    records, as `Cache.write` does, loses none of them -/
theorem run_outputs (prog : Prog) : ∀ (t : Option Path) (s : KSt),
    (∀ q, q ∈ (Impl.run prog t s).2.1.sp.outputs ↔ q ∈ outsL (Impl.run prog t s).2.2 ∨ q ∈ s.sp.outputs) ∧
    (∀ q, q ∈ outsL ((Impl.run prog t s).2.2.filter Impl.isComplexRegistered) ↔ q ∈ outsL (Impl.run prog t s).2.2) := by
  intro t s
  obtain ⟨h1, h2⟩ := run_outputs_eq prog t s
  refine ⟨fun q => ?_, fun q => ?_⟩
  · rw [h1, List.mem_append, List.mem_reverse]
  · rw [outsL, outsL, registeredL_filter_complex _ h2]

end FB

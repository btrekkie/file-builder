/-
  From one build to the next: the records a build writes are valid for the next program, provided
  function names keep denoting the same functions (`Stable`).
-/
import FB.Props.C01Follows
namespace FB
open FS Spec

/-- what is known about a registered record of a run that follows `prog` -/
def RecValid (ds : Nat) (prog : Prog) : Op → Prop
  | .simple _ _ _ _ => True
  | .buildFile path cmp fname args kwargs subs ret cmpRes raised _ content =>
    raised = false → ∃ body k, Reach prog (.buildFile path cmp fname args kwargs body k) ∧
      Follows ds body (some path) subs (.ok ret) (some content) ∧ ∃ m0, cmpRes = View.cmpResult cmp content m0
  | .subbuild fname args kwargs subs ret raised _ =>
    raised = false → ∃ body k wb, Reach prog (.subbuild fname args kwargs body k) ∧
      Follows ds body none subs (.ok ret) wb

theorem RecValid.of_reach {ds : Nat} {p c : Prog} (hr : Reach p c) : (o : Op) → RecValid ds c o → RecValid ds p o
  | .simple _ _ _ _, _ => trivial
  | .buildFile _ _ _ _ _ _ _ _ _ _ _, h => by
    intro hr'
    obtain ⟨body, k, h1, h2⟩ := h hr'
    exact ⟨body, k, hr.trans h1, h2⟩
  | .subbuild _ _ _ _ _ _ _, h => by
    intro hr'
    obtain ⟨body, k, wb, h1, h2⟩ := h hr'
    exact ⟨body, k, wb, hr.trans h1, h2⟩

/-- every registered record of a run that follows `prog` was produced at a call `prog` reaches, and
    follows that call's function -/
theorem follows_registered {ds : Nat} {prog : Prog} {t : Option Path} {ops : List Op} {r : CallRes}
    {w : Option String} (hF : Follows ds prog t ops r w) : ∀ x ∈ registeredL ops, RecValid ds prog x := by
  -- the registered records of `op :: ops`: those inside `op`, `op` itself, and those of `ops`
  refine hF.by_records (P := fun prog ops => ∀ x ∈ registeredL ops, RecValid ds prog x)
    (fun _ x hx => nomatch hx) ?_ ?_ ?_ ?_ ?_ ?_
  · intro q k ans ret exc ops _ ih x hx
    rcases (mem_registeredL_cons _ _ _).mp hx with hx | hx
    · rw [registered_simple] at hx; cases hx
    · exact RecValid.of_reach (.query q k ans _ (.here _)) x (ih x hx)
  · intro b mt k ops ih x hx
    exact RecValid.of_reach (.write b mt k _ (.here _)) x (ih x hx)
  · intro path cmp fname args kwargs body k r' ops ih x hx
    rcases (mem_registeredL_cons _ _ _).mp hx with hx | hx
    · cases hx
    · exact RecValid.of_reach (.bfCont path cmp fname args kwargs body k r' _ (.here _)) x (ih x hx)
  · intro path cmp fname args kwargs body k subs ret cmpRes raised content r' ops hb ihb ihk x hx
    rcases (mem_registeredL_cons _ _ _).mp hx with hx | hx
    · rcases mem_registered_buildFile hx with hx | rfl
      · exact RecValid.of_reach (.bfBody path cmp fname args kwargs body k _ (.here _)) x (ihb x hx)
      · exact fun hr => ⟨body, k, .here _, hb hr⟩
    · exact RecValid.of_reach (.bfCont path cmp fname args kwargs body k r' _ (.here _)) x (ihk x hx)
  · intro fname args kwargs body k r' ops ih x hx
    rcases (mem_registeredL_cons _ _ _).mp hx with hx | hx
    · cases hx
    · exact RecValid.of_reach (.sbCont fname args kwargs body k r' _ (.here _)) x (ih x hx)
  · intro fname args kwargs body k subs ret raised r' ops hb ihb ihk x hx
    rcases (mem_registeredL_cons _ _ _).mp hx with hx | hx
    · rcases mem_registered_subbuild hx with hx | rfl
      · exact RecValid.of_reach (.sbBody fname args kwargs body k _ (.here _)) x (ihb x hx)
      · exact fun hr => (hb hr).elim fun wb h => ⟨body, k, wb, .here _, h⟩
    · exact RecValid.of_reach (.sbCont fname args kwargs body k r' _ (.here _)) x (ihk x hx)

/-- **The contract on the user's functions**, from the program `p` of one build to the program `p'` of a
    later one: a function whose version did not change, called for the same file (resp. with the same
    subbuild key) and JSON-equal arguments, can still produce every record it could produce — as long as
    the record mentions only functions whose versions did not change either.  (For programs given by a
    function table this says: the table entry of an unchanged function is unchanged.) -/
structure Stable (ds : Nat) (old : CacheRec) (nv : List (String × Json)) (p p' : Prog) : Prop where
  file : ∀ path cmp fname args kwargs body k, Reach p (.buildFile path cmp fname args kwargs body k) →
    ∀ cmp' args' kwargs' body' k', Reach p' (.buildFile path cmp' fname args' kwargs' body' k') →
    isEqual args args' = true → isEqual kwargs kwargs' = true →
    isEqual (verOf old.versions fname) (verOf nv fname) = true →
    ∀ subs r w, VersionsOk old nv subs → Follows ds body (some path) subs r w → Follows ds body' (some path) subs r w
  sub : ∀ fname args kwargs body k, Reach p (.subbuild fname args kwargs body k) →
    ∀ fname' args' kwargs' body' k', Reach p' (.subbuild fname' args' kwargs' body' k') →
    heq (subKey fname args kwargs) (subKey fname' args' kwargs') = true →
    isEqual (verOf old.versions fname') (verOf nv fname') = true →
    ∀ subs r w, VersionsOk old nv subs → Follows ds body none subs r w → Follows ds body' none subs r w

/-- the comparison results recorded in the cache identify contents (automatic for HASH — `faithful_of_hash`;
    for METADATA the user's assumption that size and modification time determine the content) -/
def FaithfulRec : Op → Prop
  | .simple _ _ _ _ => True
  | .buildFile _ cmp _ _ _ subs _ cmpRes raised _ content =>
    raised = false → FaithfulOps (fun _ _ _ => True) subs ∧
      ∀ b m, isEqual cmpRes (View.cmpResult cmp b m) = true → b = content
  | .subbuild _ _ _ subs _ raised _ => raised = false → FaithfulOps (fun _ _ _ => True) subs

theorem registered_sub_of_filter (f : Op → Bool) (ops : List Op) :
    ∀ x ∈ registeredL (ops.filter f), x ∈ registeredL ops := by
  induction ops with
  | nil => intro x hx; exact hx
  | cons o os ih =>
    intro x hx
    rw [mem_registeredL_cons]
    simp only [List.filter] at hx
    split at hx
    · rw [mem_registeredL_cons] at hx
      rcases hx with hx | hx
      · exact Or.inl hx
      · exact Or.inr (ih x hx)
    · exact Or.inr (ih x hx)

/-- **The cache one build writes is valid for the next program.** -/
theorem cacheOK_next {ds : Nat} {root root' : Prog} {ops : List Op} {r : CallRes} {w : Option String}
    (hF : Follows ds root none ops r w) (name : String) (created : List Path) (vs vs' : List (String × Json))
    (hst : Stable ds { buildName := name, roots := ops.filter Impl.isComplexRegistered, createdDirs := created, versions := vs }
      vs' root root')
    (hfa : ∀ x ∈ registeredL (ops.filter Impl.isComplexRegistered), FaithfulRec x) :
    CacheOK ds { buildName := name, roots := ops.filter Impl.isComplexRegistered, createdDirs := created, versions := vs }
      vs' root' := by
  constructor
  · intro path cmp' fname args' kwargs' body' k' hreach p' rcmp rargs rkwargs subs ret cmpRes sf content hget hia hik hv hvok
    obtain ⟨hmem, hat⟩ := mem_of_find?_reverse _ _ _ hget
    have hp' : p' = path := by simpa [Op.isFileAt] using hat
    subst hp'
    have hmem' := registered_sub_of_filter _ ops _ hmem
    obtain ⟨body, k, hr1, hfol, hm0⟩ := follows_registered hF _ hmem' rfl
    have hfr := hfa _ hmem rfl
    exact ⟨hst.file p' rcmp fname rargs rkwargs body k hr1 cmp' args' kwargs' body' k' hreach hia hik hv subs _ _ hvok hfol,
      hfr.1, hm0, hfr.2⟩
  · intro fname' args' kwargs' body' k' hreach f a kk subs ret sf hget hv hvok
    obtain ⟨hmem, hat⟩ := mem_of_find?_reverse _ _ _ hget
    have hkey : heq (subKey f a kk) (subKey fname' args' kwargs') = true := by simpa [Op.isSubWith] using hat
    have hmem' := registered_sub_of_filter _ ops _ hmem
    obtain ⟨body, k, wb, hr1, hfol⟩ := follows_registered hF _ hmem' rfl
    have hfr := hfa _ hmem rfl
    exact ⟨wb, hst.sub f a kk body k hr1 fname' args' kwargs' body' k' hreach hkey hv subs _ _ hvok hfol, hfr⟩

end FB

/-
  C01 / C05 — soundness of reuse.  If the cache logic (`FB.Impl`) accepts a recorded operation tree
  (`replayOps ops s = some s'`), then calling the recorded function from scratch in the current state
  gives the recorded result and leaves the state the replay computed — for every program, every
  record that follows it, every tree.  "Stale results are never served."

  Hypotheses, all explicit:
  * `Follows`: the record is one the function can produce (this is what the cache holds when function
    bodies change only together with their version);
  * `FaithfulOps`: the comparison modes' own obligation (automatic for HASH, see `faithful_of_hash`);
  * no injected faults; the state is well formed (`KSt.WF`, `PendClaimed`).
  The relation between the two final states is `SpecSt.Sim`: equal up to modification times of files,
  clocks and logs — a from-scratch run rewrites outputs, a reuse keeps them.
-/
import FB.Lemmas.SoundAux
namespace FB
open FS Spec

/-- what the soundness theorem concludes about running `prog` from scratch in `sp`.  The last clause says what is
    pending for the run's own target afterwards (`w`: what the records say it last wrote): this is what decides,
    for the enclosing `build_file` call, whether `bfFinish` finds the target created. -/
def SoundConcl (prog : Prog) (t : Option Path) (sp : SpecSt) (r : CallRes) (w : Option String)
    (s' : KSt) : Prop :=
  (run prog t sp).1 = r ∧ SpecSt.Sim (run prog t sp).2.1 s'.sp ∧ PendClaimed (run prog t sp).2.1 ∧
  (∀ p, t = some p →
    (w = none → pendingFind (run prog t sp).2.1.pending p = pendingFind sp.pending p) ∧
    (∀ c, w = some c → ∃ m, pendingFind (run prog t sp).2.1.pending p = some (c, m)))

theorem setup_match (sp : SpecSt) (s : KSt) (path : Path) (made : List Path) (raised : Bool)
    (hsim : SpecSt.Sim sp s.sp) (hff : sp.failFiles = [])
    (hncl : ¬ path ∈ s.sp.claimedFiles) (hcf : path ≠ s.sp.cacheFile) (habs : s.sp.fs.get path = none)
    (hdm : dirsToMake (visible s.sp) s.sp.cacheFile s.sp.inProg path.dropLast = .ok made)
    (hlong : made.any Path.tooLong = false) :
    ∃ sp1, bfSetup sp path = .ok (sp1, made) ∧ SpecSt.Sim sp1 (replayS1 s path made raised).sp ∧
      sp1.pending = sp.pending ∧ sp1.claimedFiles = path :: sp.claimedFiles := by
  have hffs : s.sp.failFiles = [] := by rw [← hsim.failFiles, hff]
  have hdir : s.sp.fs.isDir path = false := by simp [FS.isDir, habs]
  have hb : bfSetup s.sp path = .ok (setupState s.sp path made, made) := by
    unfold bfSetup
    simp [hncl, hcf, hdir, hdm, hffs, hlong]
  rcases sim_bfSetup hsim path with ⟨e, _, he⟩ | ⟨a1, b1, made', ha, hb', hs, hp1, _⟩
  · rw [hb] at he; cases he
  · rw [hb] at hb'
    simp only [Except.ok.injEq, Prod.mk.injEq] at hb'
    obtain ⟨hb1, hm⟩ := hb'
    subst hm hb1
    refine ⟨a1, ha, hs.trans ?_, hp1, ?_⟩
    · have hnf : (mkdirs s.sp.fs made).isFile path = false := by
        rcases mkdirs_get made s.sp.fs path with h' | ⟨_, h2⟩
        · simp [FS.isFile, h', habs]
        · simp [FS.isFile, h2]
      have hfs : (setupState s.sp path made).fs = mkdirs s.sp.fs made := by
        show (if (mkdirs s.sp.fs made).isFile path = true then _ else _) = _
        rw [hnf]; rfl
      exact ⟨by rw [hfs]; exact FS.Sim.refl _, rfl, rfl, rfl, rfl, rfl, rfl, rfl, rfl, rfl⟩
    · obtain ⟨h1, _⟩ := bfSetup_ok_fields _ _ _ _ ha
      rw [h1]; simp [setupState]

theorem sim_subStart {sp : SpecSt} {s : KSt} (h : SpecSt.Sim sp s.sp) (fname : String) (args kwargs : Json) :
    SpecSt.Sim (subStart sp fname args kwargs) (Impl.subClaim s (subKey fname args kwargs)).sp :=
  ⟨h.fs, h.cacheFile, h.dirSize, h.claimedFiles, congrArg (subKey fname args kwargs :: ·) h.claimedSubs, h.inProg,
    h.outputs, h.createdDirs, h.failFiles, h.failSubs⟩

theorem run_buildFile_proj (path : Path) (cmp : Cmp) (fname : String) (args kwargs : Json) (body : Prog)
    (k : CallRes → Prog) (t : Option Path) (sp sp1 s1' : SpecSt) (made : List Path)
    (h : bfSetup sp path = .ok (sp1, made))
    (hs1' : s1' = { sp1 with invLog := ⟨fname, some path, args, kwargs⟩ :: sp1.invLog })
    (r2 : CallRes) (sp2 : SpecSt) (tr2 : List CallNode) (hrb : run body (some path) s1' = (r2, sp2, tr2)) :
    (run (.buildFile path cmp fname args kwargs body k) t sp).1 =
      (run (k (bfFinish sp2 path made r2).1) t (bfFinish sp2 path made r2).2).1 ∧
    (run (.buildFile path cmp fname args kwargs body k) t sp).2.1 =
      (run (k (bfFinish sp2 path made r2).1) t (bfFinish sp2 path made r2).2).2.1 := by
  subst hs1'
  rw [run_bf_ok h]
  simp only [hrb]
  constructor <;> first | rfl | trivial

theorem run_subbuild_proj (fname : String) (args kwargs : Json) (body : Prog) (k : CallRes → Prog)
    (t : Option Path) (sp s1 : SpecSt)
    (h1 : sp.claimedSubs.any (heq (subKey fname args kwargs)) = false) (h2 : sp.failSubs = [])
    (hs1 : s1 = subStart sp fname args kwargs)
    (r2 : CallRes) (sp2 : SpecSt) (tr2 : List CallNode) (hrb : run body none s1 = (r2, sp2, tr2)) :
    (run (.subbuild fname args kwargs body k) t sp).1 = (run (k r2) t sp2).1 ∧
    (run (.subbuild fname args kwargs body k) t sp).2.1 = (run (k r2) t sp2).2.1 := by
  subst hs1
  rw [run_sb_run h1 (by rw [h2]; rfl)]
  simp only [hrb]
  constructor <;> first | rfl | trivial

/-- a failed call leaves trees that agree up to modification times if it started from such trees -/
theorem sim_failSt {a b : SpecSt} (h : SpecSt.Sim a b) (path : Path) (made : List Path) :
    SpecSt.Sim (failSt a path made) (failSt b path made) := by
  have hfs := sim_rmEmpty made h.fs
  have hfilter : made.filter (rmEmpty a.fs made).isDir = made.filter (rmEmpty b.fs made).isDir :=
    List.filter_congr fun x _ => hfs.isDir x
  exact ⟨hfs, h.cacheFile, h.dirSize, h.claimedFiles, h.claimedSubs, congrArg (List.erase · path) h.inProg, h.outputs,
    by show _ ++ _ = _ ++ _; rw [hfilter, h.createdDirs], h.failFiles, h.failSubs⟩

theorem sim_failSt_unwind (sp2 : SpecSt) (s2 : KSt) (path : Path) (made : List Path) (h : SpecSt.Sim sp2 s2.sp) :
    SpecSt.Sim (failSt sp2 path made) (Impl.unwind s2 path made).sp :=
  (sim_failSt h path made).trans ⟨FS.Sim.refl _, rfl, rfl, rfl, rfl, rfl, rfl, rfl, rfl, rfl⟩

/-- what `replay_sound` assumes of the from-scratch state `sp` and the replaying state `s` -/
structure SoundPre (ds : Nat) (t : Option Path) (sp : SpecSt) (s : KSt) : Prop where
  sim : SpecSt.Sim sp s.sp
  dsz : sp.dirSize = ds
  ff : sp.failFiles = []
  fsb : sp.failSubs = []
  wf : s.WF
  pc : PendClaimed sp
  tc : ∀ p, t = some p → p ∈ s.sp.claimedFiles

/-- the assumptions hold again after a record has been replayed on one side and its call run on the other -/
theorem SoundPre.next {ds : Nat} {t : Option Path} {sp sp3 : SpecSt} {s sm : KSt} (h : SoundPre ds t sp s)
    (k : Keeps s sm) (hsim : SpecSt.Sim sp3 sm.sp) (hpc : PendClaimed sp3) : SoundPre ds t sp3 sm :=
  ⟨hsim, by rw [hsim.dirSize, k.dirSize, ← h.sim.dirSize, h.dsz],
    by rw [hsim.failFiles, k.failFiles, ← h.sim.failFiles, h.ff],
    by rw [hsim.failSubs, k.failSubs, ← h.sim.failSubs, h.fsb], k.wf h.wf, hpc, fun p hp => k.claimed p (h.tc p hp)⟩

theorem SoundPre.retarget {ds : Nat} {t t' : Option Path} {sp : SpecSt} {s : KSt} (h : SoundPre ds t sp s)
    (htc : ∀ p, t' = some p → p ∈ s.sp.claimedFiles) : SoundPre ds t' sp s :=
  ⟨h.sim, h.dsz, h.ff, h.fsb, h.wf, h.pc, htc⟩

/-- `replay_sound` for one program and one list of records -/
def Sound (ds : Nat) (prog : Prog) (t : Option Path) (ops : List Op) (r : CallRes) (w : Option String) : Prop :=
  ∀ (sp : SpecSt) (s s' : KSt), SoundPre ds t sp s → FaithfulOps s.InU ops → Impl.replayOps ops s = some s' →
    SoundConcl prog t sp r w s'

/-- the conclusion for a program follows from the conclusion for what is left of it after its first call, run
    in `sp3`, if that call has not touched what the enclosing function has written -/
theorem SoundConcl.of_rest {prog rest : Prog} {t : Option Path} {sp sp3 : SpecSt} {r : CallRes} {w : Option String}
    {s' : KSt} (hc : SoundConcl rest t sp3 r w s')
    (h : (run prog t sp).1 = (run rest t sp3).1 ∧ (run prog t sp).2.1 = (run rest t sp3).2.1)
    (hkeep : ∀ p, t = some p → pendingFind sp3.pending p = pendingFind sp.pending p) :
    SoundConcl prog t sp r w s' := by
  unfold SoundConcl at hc ⊢
  rw [h.1, h.2]
  refine ⟨hc.1, hc.2.1, hc.2.2.1, fun p hp => ?_⟩
  rw [← hkeep p hp]
  exact hc.2.2.2 p hp

/-- replay of a `build_file` record up to the point where the recorded function has returned: from scratch the
    set-up succeeds with the same directories, and the function does what its records say -/
theorem sound_bf_body {ds : Nat} {t : Option Path} {sp : SpecSt} {s s2 : KSt} (pre : SoundPre ds t sp s)
    (path : Path) (fname : String) (args kwargs : Json) (body : Prog) (subs : List Op) (rb : CallRes)
    (wb : Option String) (made : List Path) (raised : Bool)
    (hncl : path ∉ s.sp.claimedFiles) (hcf : path ≠ s.sp.cacheFile) (habs : s.sp.fs.get path = none)
    (hdm : dirsToMake (visible s.sp) s.sp.cacheFile s.sp.inProg path.dropLast = .ok made)
    (hlong : made.any Path.tooLong = false) (hfa : FaithfulOps s.InU subs)
    (hs2 : Impl.replayOps subs (replayS1 s path made raised) = some s2)
    (ihb : Sound ds body (some path) subs rb wb) :
    ∃ sp1 s1', bfSetup sp path = .ok (sp1, made) ∧
      s1' = { sp1 with invLog := ⟨fname, some path, args, kwargs⟩ :: sp1.invLog } ∧
      SoundConcl body (some path) s1' rb wb s2 ∧ pendingFind s1'.pending path = none ∧
      ∀ p ∈ s.sp.claimedFiles, pendingFind (run body (some path) s1').2.1.pending p = pendingFind sp.pending p := by
  obtain ⟨sp1, hsetup, hsim1, hpend1, hcl1⟩ :=
    setup_match sp s path made raised pre.sim pre.ff hncl hcf habs hdm hlong
  have hpc1 : PendClaimed { sp1 with invLog := ⟨fname, some path, args, kwargs⟩ :: sp1.invLog } := by
    intro q hq
    show pendingFind sp1.pending q = none
    rw [hpend1]
    exact pre.pc q fun hc => hq (by show q ∈ sp1.claimedFiles; rw [hcl1]; exact List.mem_cons_of_mem _ hc)
  have pre1 : SoundPre ds (some path) { sp1 with invLog := ⟨fname, some path, args, kwargs⟩ :: sp1.invLog }
      (replayS1 s path made raised) :=
    ⟨hsim1.invLog _ (replayS1 s path made raised).sp.invLog,
      hsim1.dirSize.trans (pre.sim.dirSize.symm.trans pre.dsz),
      hsim1.failFiles.trans (pre.sim.failFiles.symm.trans pre.ff),
      hsim1.failSubs.trans (pre.sim.failSubs.symm.trans pre.fsb),
      replayS1_wf pre.wf path made raised, hpc1,
      fun p hp => by injection hp with hp; subst hp; exact List.mem_cons_self⟩
  refine ⟨sp1, _, hsetup, rfl, ihb _ _ s2 pre1 (FaithfulOps.mono (fun _ _ _ => replayS1_inU) subs hfa) hs2, ?_, ?_⟩
  · show pendingFind sp1.pending path = none
    rw [hpend1]
    exact pre.pc path (by rw [pre.sim.claimedFiles]; exact hncl)
  · intro p hp
    have hpp : p ≠ path := fun e => hncl (e ▸ hp)
    rw [(run_keeps_claimed body (some path) _).2 p
      (by show p ∈ sp1.claimedFiles; rw [hcl1, pre.sim.claimedFiles]; exact List.mem_cons_of_mem _ hp)
      (fun e => hpp (by injection e with e; exact e.symm))]
    show pendingFind sp1.pending p = _
    rw [hpend1]

/-- the recorded function returned and wrote its target; the leftover that matched the record has the content it
    wrote: finishing the call from scratch and adopting the leftover give the same tree -/
theorem sim_adopt {sp2 : SpecSt} {s2 : KSt} (hsim2 : SpecSt.Sim sp2 s2.sp) (path : Path) (made : List Path) (j : Json)
    (c : String) (mw m : Nat) (hpne : path ≠ []) (hwr : pendingFind sp2.pending path = some (c, mw))
    (hshelf2 : s2.shelf.get path = some (.file c m)) :
    (bfFinish sp2 path made (.ok j)).1 = .ok j ∧
      SpecSt.Sim (bfFinish sp2 path made (.ok j)).2 (Impl.adopt s2 path made).sp := by
  rw [bfFinish_ok sp2 path made j c mw hwr]
  refine ⟨rfl, ?_⟩
  simp only [finOk, Impl.adopt, hshelf2, hpne, if_false]
  exact ⟨hsim2.fs.set path _ _ (by simp [Entry.sim]), hsim2.cacheFile, hsim2.dirSize,
    hsim2.claimedFiles, hsim2.claimedSubs, by simp [hsim2.inProg], by simp [hsim2.outputs],
    by simp [hsim2.createdDirs], hsim2.failFiles, hsim2.failSubs⟩

/-- a `build_file` record of a call that failed (`rb`, `wb`: what the recorded function returned and wrote;
    `hfin`: the call fails from scratch too): the record is re-enacted (`unwind`) -/
theorem sound_bf_failed {ds : Nat} (path : Path) (cmp : Cmp) (fname : String) (args kwargs : Json) (body : Prog)
    (k : CallRes → Prog) (t : Option Path) (subs : List Op) (ret cmpRes : Json) (content : String) (ops : List Op)
    (rb : CallRes) (wb : Option String) (e : Exc) (r : CallRes) (w : Option String)
    (hfin : ∀ sp2 made, (wb = none → pendingFind sp2.pending path = none) →
      bfFinish sp2 path made rb = (.error e, failSt sp2 path made))
    (ihb : Sound ds body (some path) subs rb wb) (ihk : Sound ds (k (.error e)) t ops r w) :
    Sound ds (.buildFile path cmp fname args kwargs body k) t
      (.buildFile path cmp fname args kwargs subs ret cmpRes true false content :: ops) r w := by
  intro sp s s' pre hfa hr
  obtain ⟨sm, h1, h2⟩ := (replayOps_cons _ _ _ _).mp hr
  obtain ⟨_, _, _, hncl, hcf, habs, made, s2, hdm, hlong, hs2, rfl⟩ :=
    replayOp_buildFile_some _ _ _ _ _ _ _ _ _ _ _ _ _ h1
  unfold FaithfulOps at hfa
  obtain ⟨hfop, hfrest⟩ := hfa
  unfold FaithfulOp at hfop
  obtain ⟨sp1, s1', hsetup, hs1', ⟨hrb, hsim2, hpc2, hpend2⟩, hp0, hkeepb⟩ :=
    sound_bf_body pre path fname args kwargs body subs rb wb made true hncl hcf habs hdm hlong hfop.2 hs2 ihb
  have k01 := replayOp_keeps _ s _ pre.wf h1
  have hproj := run_buildFile_proj path cmp fname args kwargs body k t sp sp1 s1' made hsetup hs1' _ _ _ rfl
  have hf := hfin (run body (some path) s1').2.1 made (fun hw => by rw [(hpend2 path rfl).1 hw, hp0])
  rw [hrb, hf] at hproj
  have pre3 : SoundPre ds t (failSt (run body (some path) s1').2.1 path made) (Impl.unwind s2 path made) :=
    pre.next k01 (sim_failSt_unwind _ s2 path made hsim2) (by have := hpc2.bfFinish path made rb; rwa [hf] at this)
  refine (ihk _ _ s' pre3 (FaithfulOps.mono k01.univ ops hfrest) h2).of_rest hproj fun p hp => ?_
  have hpcl := pre.tc p hp
  show pendingFind ((run body (some path) s1').2.1.pending.filter (fun x => x.1 ≠ path)) p = _
  rw [pendingFind_filter_ne path p _ (fun e => hncl (e ▸ hpcl)), hkeepb p hpcl]

/-- a `build_file` record of a successful call: the leftover it matches has the content the function writes;
    adopting it and finishing the call from scratch agree -/
theorem sound_bf_ok {ds : Nat} {path : Path} {cmp : Cmp} {fname : String} {args kwargs : Json} {body : Prog}
    {k : CallRes → Prog} {t : Option Path} {subs : List Op} {j : Json} {c : String} {m0 : Nat} {ops : List Op}
    {r : CallRes} {w : Option String} (ihb : Sound ds body (some path) subs (.ok j) (some c))
    (ihk : Sound ds (k (.ok j)) t ops r w) :
    Sound ds (.buildFile path cmp fname args kwargs body k) t
      (.buildFile path cmp fname args kwargs subs j (View.cmpResult cmp c m0) false false c :: ops) r w := by
  intro sp s s' pre hfa hr
  obtain ⟨sm, h1, h2⟩ := (replayOps_cons _ _ _ _).mp hr
  obtain ⟨_, hom, _, hncl, hcf, habs, made, s2, hdm, hlong, hs2, rfl⟩ :=
    replayOp_buildFile_some _ _ _ _ _ _ _ _ _ _ _ _ _ h1
  obtain ⟨hpne, b, m, hshelf, heq⟩ := outputMatches_shelf s path cmp c m0 (hom rfl)
  unfold FaithfulOps at hfa
  obtain ⟨hfop, hfrest⟩ := hfa
  unfold FaithfulOp at hfop
  obtain rfl : b = c := hfop.1 rfl b m (Or.inr hshelf) heq
  obtain ⟨sp1, s1', hsetup, hs1', ⟨hrb, hsim2, hpc2, hpend2⟩, _, hkeepb⟩ :=
    sound_bf_body pre path fname args kwargs body subs (.ok j) (some b) made false hncl hcf habs hdm hlong hfop.2
      hs2 ihb
  obtain ⟨mw, hwr⟩ := (hpend2 path rfl).2 b rfl
  -- the leftover is still on the shelf after the sub-records have been replayed
  have k12 := replayOps_keeps subs _ s2 (replayS1_wf pre.wf path made false) hs2
  have hshelf2 : s2.shelf.get path = some (.file b m) := by
    rw [k12.shelfInProg path List.mem_cons_self]
    show FS.get (s.shelf.filter (fun x => !(made.contains x.1))) path = _
    rw [get_filter_key s.shelf (fun q => !made.contains q) _ hpne]
    have : path ∉ made := path_not_in_made _ _ _ _ _ hpne hdm
    simp [this, hshelf]
  obtain ⟨hfin1, hsim3⟩ := sim_adopt hsim2 path made j b mw m hpne hwr hshelf2
  have k01 := replayOp_keeps _ s _ pre.wf h1
  have hproj := run_buildFile_proj path cmp fname args kwargs body k t sp sp1 s1' made hsetup hs1' _ _ _ rfl
  rw [hrb, hfin1] at hproj
  refine (ihk _ _ s' (pre.next k01 hsim3 (hpc2.bfFinish path made _)) (FaithfulOps.mono k01.univ ops hfrest)
    h2).of_rest hproj fun p hp => ?_
  have hpcl := pre.tc p hp
  rw [bfFinish_pending, pendingFind_filter_ne path p _ (fun e => hncl (e ▸ hpcl)), hkeepb p hpcl]

/-- a `subbuild` record: its key is claimed, and its function does what its records say -/
theorem sound_subbuild {ds : Nat} (fname : String) (args kwargs : Json) (body : Prog) (k : CallRes → Prog)
    (t : Option Path) (subs : List Op) (ret : Json) (raised : Bool) (ops : List Op) (rb : CallRes)
    (wb : Option String) (r : CallRes) (w : Option String)
    (ihb : Sound ds body none subs rb wb) (ihk : Sound ds (k rb) t ops r w) :
    Sound ds (.subbuild fname args kwargs body k) t (.subbuild fname args kwargs subs ret raised false :: ops) r w := by
  intro sp s s' pre hfa hr
  obtain ⟨sm, h1, h2⟩ := (replayOps_cons _ _ _ _).mp hr
  obtain ⟨_, _, hkey, hsubs⟩ := replayOp_subbuild_some _ _ _ _ _ _ _ _ _ h1
  unfold FaithfulOps at hfa
  obtain ⟨hfop, hfrest⟩ := hfa
  unfold FaithfulOp at hfop
  have hsim1 := sim_subStart pre.sim fname args kwargs
  obtain ⟨hrb, hsim2, hpc2, _⟩ := ihb (subStart sp fname args kwargs) (Impl.subClaim s (subKey fname args kwargs)) sm
    ⟨hsim1, pre.dsz, pre.ff, pre.fsb, pre.wf, pre.pc, fun p hp => nomatch hp⟩
    (FaithfulOps.mono (fun _ _ _ hu => hu) subs hfop) hsubs
  have k01 := replayOp_keeps _ s sm pre.wf h1
  have hproj := run_subbuild_proj fname args kwargs body k t sp _
    (by rw [pre.sim.claimedSubs]; exact hkey) pre.fsb rfl _ _ _ rfl
  rw [hrb] at hproj
  refine (ihk _ _ s' (pre.next k01 hsim2 hpc2) (FaithfulOps.mono k01.univ ops hfrest) h2).of_rest hproj fun p hp => ?_
  exact (run_keeps_claimed body none _).2 p (by show p ∈ sp.claimedFiles; rw [pre.sim.claimedFiles]; exact pre.tc p hp)
    (by simp)

theorem replay_sound_pre {ds : Nat} {prog : Prog} {t : Option Path} {ops : List Op} {r : CallRes}
    {w : Option String} (hF : Follows ds prog t ops r w) : Sound ds prog t ops r w := by
  induction hF with
  | retOk v t j hj =>
    intro sp s s' pre _ hr
    cases hr
    unfold SoundConcl
    rw [run, hj]
    exact ⟨rfl, pre.sim, pre.pc, fun p _ => ⟨fun _ => rfl, fun c hc => nomatch hc⟩⟩
  | retBad v t hj =>
    intro sp s s' pre _ hr
    cases hr
    unfold SoundConcl
    rw [run, hj]
    exact ⟨rfl, pre.sim, pre.pc, fun p _ => ⟨fun _ => rfl, fun c hc => nomatch hc⟩⟩
  | raise e t =>
    intro sp s s' pre _ hr
    cases hr
    exact ⟨rfl, pre.sim, pre.pc, fun p _ => ⟨fun _ => rfl, fun c hc => nomatch hc⟩⟩
  | query q k t ops r w ret exc ans hrec _ ih =>
    intro sp s s' pre hfa hr
    obtain ⟨sm, h1, h2⟩ := (replayOps_cons _ _ _ _).mp hr
    unfold FaithfulOps at hfa
    have hds' : s.sp.dirSize = ds := by rw [← pre.sim.dirSize, pre.dsz]
    obtain ⟨rfl, hans⟩ := replay_simple_sound s sm q ret exc ans (hds' ▸ hrec) hfa.1 h1
    have hrun : run (.query q k) t sp = run (k ans) t sp := by
      rw [run, View.sim_answer (sim_visible pre.sim), pre.sim.dirSize, hans]
    unfold SoundConcl
    rw [hrun]
    exact ih sp sm s' pre hfa.2 h2
  | writeSome b mt k p ops r w _ ih =>
    intro sp s s' pre hfa hr
    have hpcl : p ∈ sp.claimedFiles := by rw [pre.sim.claimedFiles]; exact pre.tc p rfl
    obtain ⟨h1, h2, h3, h4⟩ := ih { sp with pending := (p, b, mt.getD sp.clock) :: sp.pending, clock := sp.clock + 1 } s s'
      ⟨pre.sim.pending _ s.sp.pending _ s.sp.clock, pre.dsz, pre.ff, pre.fsb, pre.wf, pre.pc.write hpcl b _ _, pre.tc⟩
      hfa hr
    unfold SoundConcl
    rw [run]
    refine ⟨h1, h2, h3, fun p' hp' => ?_⟩
    injection hp' with hp'; subst hp'
    obtain ⟨hnone, hsome⟩ := h4 p rfl
    refine ⟨(fun hc => nomatch hc), fun c hc => ?_⟩
    cases w with
    | none =>
      cases hc
      exact ⟨mt.getD sp.clock, (by rw [hnone rfl]; exact pendingFind_cons_self _ _ _ _)⟩
    | some c' =>
      cases hc
      exact hsome c' rfl
  | writeNone b mt k ops r w _ ih =>
    intro sp s s' pre hfa hr
    obtain ⟨h1, h2, h3, _⟩ := ih sp s s' pre hfa hr
    unfold SoundConcl
    rw [run]
    exact ⟨h1, h2, h3, fun p hp => nomatch hp⟩
  | bfSetupFail path cmp fname args kwargs body k t ops r w e _ _ =>
    intro sp s s' _ _ hr
    obtain ⟨sm, h1, _⟩ := (replayOps_cons _ _ _ _).mp hr
    obtain ⟨_, _, hsf, _⟩ := replayOp_buildFile_some _ _ _ _ _ _ _ _ _ _ _ _ _ h1
    cases hsf
  | bfOk path cmp fname args kwargs body k t subs j c m0 ops r w _ _ ihb ihk => exact sound_bf_ok ihb ihk
  | bfRaise path cmp fname args kwargs body k t subs e kept wb ops r w _ _ ihb ihk =>
    exact sound_bf_failed path cmp fname args kwargs body k t subs kept .null "" ops (.error e) wb e r w
      (fun sp2 made _ => bfFinish_error sp2 path made e) ihb ihk
  | bfNotCreated path cmp fname args kwargs body k t subs j ops r w _ _ ihb ihk =>
    exact sound_bf_failed path cmp fname args kwargs body k t subs j .null "" ops (.ok j) none _ r w
      (fun sp2 made h => bfFinish_notCreated sp2 path made j (h rfl)) ihb ihk
  | sbSetupFail fname args kwargs body k t ops r w e _ _ =>
    intro sp s s' _ _ hr
    obtain ⟨sm, h1, _⟩ := (replayOps_cons _ _ _ _).mp hr
    obtain ⟨_, hsf, _⟩ := replayOp_subbuild_some _ _ _ _ _ _ _ _ _ h1
    cases hsf
  | sbOk fname args kwargs body k t subs j wb ops r w _ _ ihb ihk =>
    exact sound_subbuild fname args kwargs body k t subs j false ops (.ok j) wb r w ihb ihk
  | sbRaise fname args kwargs body k t subs e wb ops r w _ _ ihb ihk =>
    exact sound_subbuild fname args kwargs body k t subs .null true ops (.error e) wb r w ihb ihk

/-- **Soundness of replay**: a record tree that follows the program and is accepted by replay was produced by a
    run that, repeated now from scratch, returns the recorded result and ends in the state replay computed. -/
theorem replay_sound {ds : Nat} {prog : Prog} {t : Option Path} {ops : List Op} {r : CallRes}
    {w : Option String} (hF : Follows ds prog t ops r w) :
    ∀ (sp : SpecSt) (s s' : KSt), SpecSt.Sim sp s.sp → sp.dirSize = ds → sp.failFiles = [] →
      sp.failSubs = [] → s.WF → PendClaimed sp → (∀ p, t = some p → p ∈ s.sp.claimedFiles) →
      FaithfulOps s.InU ops → Impl.replayOps ops s = some s' → SoundConcl prog t sp r w s' :=
  fun sp s s' h1 h2 h3 h4 h5 h6 h7 => replay_sound_pre hF sp s s' ⟨h1, h2, h3, h4, h5, h6, h7⟩

mutual
/-- every comparison in the record tree is a HASH comparison -/
def Op.allHash : Op → Bool
  | .simple q _ _ _ => match q with
    | .read _ cmp => cmp == .hash
    | _ => true
  | .buildFile _ cmp _ _ _ subs _ _ _ _ _ => cmp == .hash && Op.allHashL subs
  | .subbuild _ _ _ subs _ _ _ => Op.allHashL subs
def Op.allHashL : List Op → Bool
  | [] => true
  | o :: os => Op.allHash o && Op.allHashL os
end

/-- With HASH, `FaithfulOps` is a theorem, not an assumption: a file whose hash equals the recorded one
    has the recorded bytes. -/
theorem faithful_of_hash {ds : Nat} {prog : Prog} {t : Option Path} {ops : List Op} {r : CallRes}
    {w : Option String} (hF : Follows ds prog t ops r w) (U : Path → String → Nat → Prop) :
    Op.allHashL ops = true → FaithfulOps U ops := by
  refine hF.by_records (P := fun _ ops => Op.allHashL ops = true → FaithfulOps U ops)
    (fun _ _ => by unfold FaithfulOps; trivial) ?_ ?_ ?_ ?_ ?_ ?_
  · intro q k ans ret exc ops hrec ih h
    rw [Op.allHashL, Bool.and_eq_true] at h
    unfold FaithfulOps
    refine ⟨?_, ih h.2⟩
    unfold FaithfulOp
    cases exc with
    | some e => simp
    | none =>
      cases q with
      | read p cmp =>
        -- the record of a `read` holds the hash of what was read
        obtain ⟨c', m', rfl, rfl⟩ := hrec
        intro b m _ he
        obtain rfl : cmp = Cmp.hash := by simpa [Op.allHash] using h.1
        exact cmpResult_hash_inj _ _ _ _ he
      | _ => trivial
  · intro _ _ _ _ ih
    exact ih
  · intro path cmp fname args kwargs body k r' ops ih h
    rw [Op.allHashL, Bool.and_eq_true] at h
    unfold FaithfulOps
    refine ⟨?_, ih h.2⟩
    unfold FaithfulOp
    exact ⟨fun hr => (nomatch hr), by unfold FaithfulOps; trivial⟩
  · intro path cmp fname args kwargs body k subs ret cmpRes raised content r' ops hb ihb ihk h
    rw [Op.allHashL, Op.allHash, Bool.and_eq_true, Bool.and_eq_true, beq_iff_eq] at h
    unfold FaithfulOps
    refine ⟨?_, ihk h.2⟩
    unfold FaithfulOp
    refine ⟨fun hr b m _ he => ?_, ihb h.1.2⟩
    obtain ⟨_, m0, rfl⟩ := hb hr
    rw [h.1.1] at he
    exact (cmpResult_hash_inj _ _ _ _ he).symm
  · intro fname args kwargs body k r' ops ih h
    rw [Op.allHashL, Bool.and_eq_true] at h
    unfold FaithfulOps
    refine ⟨?_, ih h.2⟩
    unfold FaithfulOp FaithfulOps; trivial
  · intro fname args kwargs body k subs ret raised r' ops _ ihb ihk h
    rw [Op.allHashL, Op.allHash, Bool.and_eq_true] at h
    unfold FaithfulOps
    refine ⟨?_, ihk h.2⟩
    unfold FaithfulOp
    exact ihb h.1

/-- **C01, cache transparency for one call**: when `subbuild` is served from the cache, calling the
    function from scratch instead would return the cached value and leave the same state (up to
    modification times, clocks and logs). -/
theorem C01_subbuild_hit_transparent {ds : Nat} (fname : String) (args kwargs : Json) (body : Prog)
    (s s2 : KSt) (sp : SpecSt) (op : Op) (subs : List Op) (ret : Json) (wb : Option String)
    (hl : Impl.lookupSub s fname args kwargs = some (op, s2))
    (hrec : ∀ f a k subs' ret' sf, s.old.getSub (subKey fname args kwargs) = some (.subbuild f a k subs' ret' false sf) →
      subs' = subs ∧ ret' = ret)
    (hF : Follows ds body none subs (.ok ret) wb)
    (hsim : SpecSt.Sim sp s.sp) (hds : sp.dirSize = ds) (hff : sp.failFiles = []) (hfs : sp.failSubs = [])
    (hwf : s.WF) (hpc : PendClaimed sp) (hfa : FaithfulOps s.InU subs) :
    (run body none sp).1 = .ok ret ∧ SpecSt.Sim (run body none sp).2.1 s2.sp := by
  obtain ⟨f, a, k, subs', ret', sf, hget, _, hrep, _⟩ := lookupSub_some _ _ _ _ _ _ hl
  obtain ⟨rfl, rfl⟩ := hrec f a k subs' ret' sf hget
  have := replay_sound hF sp s s2 hsim hds hff hfs hwf hpc (fun p hp => nomatch hp) hfa hrep
  exact ⟨this.1, this.2.1⟩

/-! ### the hypotheses are satisfiable -/

/-- a record that follows a program and replays in a concrete state -/
example :
    let prog : Prog := .query (.isFile ["a"]) (fun _ => .ret .null)
    let ops : List Op := [.simple (.isFile ["a"]) (.bool false) none (.ok (.bool false))]
    let s : KSt := { sp := { fs := [], cacheFile := ["c"], dirSize := 4096, clock := 0 }, old := { buildName := "n" } }
    Follows 4096 prog none ops (.ok .null) none ∧ Impl.replayOps ops s = some s ∧ s.WF ∧
      FaithfulOps s.InU ops ∧ PendClaimed s.sp := by
  refine ⟨?_, ?_, ?_, ?_, ?_⟩
  · exact Follows.query _ _ _ _ _ _ _ _ _ ⟨⟨[], rfl⟩, rfl⟩ (Follows.retOk _ _ _ rfl)
  · simp [Impl.replayOps, Impl.replayOp, View.recVal, visible, FS.isFile, FS.get, FS.erase, isEqual]
  · intro p hp; cases hp
  · unfold FaithfulOps FaithfulOp FaithfulOps; exact ⟨trivial, trivial⟩
  · intro q _; rfl

end FB

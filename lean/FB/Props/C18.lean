/-
  C18 — JSON helper laws, proved about the model FB.Json of `json_util.py`: `sanitize` produces sanitized values,
  is idempotent and rejects exactly what is not JSON-representable (`PyVal.jsonable`, defined here); the JSON
  equality `isEqual` on sanitized values, and that equal hashable forms mean JSON-equal.
-/
import FB.Lemmas.Json
import FB.Lemmas.HashableJson
namespace FB

mutual
theorem sanitize_wf : (v : PyVal) → (j : Json) → sanitize v = some j → j.wf = true
  | .null, j, h => by cases h; rfl
  | .bool _, j, h => by cases h; rfl
  | .int _ _, j, h => by cases h; rfl
  | .flt _ _, j, h => by cases h; rfl
  | .str _ _, j, h => by cases h; rfl
  | .list _ xs, j, h => by
    simp only [sanitize, Option.map_eq_some_iff] at h
    obtain ⟨js, hjs, rfl⟩ := h
    simpa [Json.wf] using sanitizeL_wf xs js hjs
  | .tuple _ xs, j, h => by
    simp only [sanitize, Option.map_eq_some_iff] at h
    obtain ⟨js, hjs, rfl⟩ := h
    simpa [Json.wf] using sanitizeL_wf xs js hjs
  | .dict _ kvs, j, h => by
    simp only [sanitize, Option.map_eq_some_iff] at h
    obtain ⟨r, hr, rfl⟩ := h
    have := sanitizeD_wf kvs [] r (by rfl) (by rfl) hr
    simp [Json.wf, this.1, this.2]
  | .other, j, h => by cases h
theorem sanitizeL_wf : (vs : List PyVal) → (js : List Json) → sanitizeL vs = some js →
    Json.wfL js = true
  | [], js, h => by cases h; rfl
  | v :: vs, js, h => by
    simp only [sanitizeL] at h
    split at h
    · rename_i y ys hy hys
      simp at h; subst h
      simp [Json.wfL, sanitize_wf v y hy, sanitizeL_wf vs ys hys]
    · simp at h
theorem sanitizeD_wf : (kvs : List (PyKey × PyVal)) → (acc r : List (String × Json)) →
    Json.wfO acc = true → keysDistinct acc = true → sanitizeD kvs acc = some r →
    Json.wfO r = true ∧ keysDistinct r = true
  | [], acc, r, h1, h2, h => by cases h; exact ⟨h1, h2⟩
  | (k, v) :: kvs, acc, r, h1, h2, h => by
    simp only [sanitizeD] at h
    split at h
    · rename_i ks vs hk hv
      exact sanitizeD_wf kvs _ r (wfO_dictSet ks vs acc (sanitize_wf v vs hv) h1)
        (keysDistinct_dictSet ks vs acc h2) h
    · simp at h
end


mutual
theorem sanitize_toPy : (j : Json) → j.wf = true → sanitize j.toPy = some j
  | .null, _ => by simp [Json.toPy, sanitize]
  | .bool _, _ => by simp [Json.toPy, sanitize]
  | .num (.int _), _ => by simp [Json.toPy, sanitize]
  | .num (.flt _), _ => by simp [Json.toPy, sanitize]
  | .num (.inf _), _ => by simp [Json.toPy, sanitize]
  | .str _, _ => by simp [Json.toPy, sanitize]
  | .arr xs, h => by
    simp only [Json.wf] at h
    simp [Json.toPy, sanitize, sanitizeL_toPyL xs h]
  | .tup _, h => by simp [Json.wf] at h
  | .obj kvs, h => by
    simp only [Json.wf, Bool.and_eq_true] at h
    have := sanitizeD_toPyO kvs [] h.1 h.2 (by intro k hk; rfl)
    simp [Json.toPy, sanitize, this]
theorem sanitizeL_toPyL : (xs : List Json) → Json.wfL xs = true →
    sanitizeL (Json.toPyL xs) = some xs
  | [], _ => by simp [Json.toPyL, sanitizeL]
  | x :: xs, h => by
    simp only [Json.wfL, Bool.and_eq_true] at h
    simp [Json.toPyL, sanitizeL, sanitize_toPy x h.1, sanitizeL_toPyL xs h.2]
theorem sanitizeD_toPyO : (kvs acc : List (String × Json)) → Json.wfO kvs = true →
    keysDistinct kvs = true → (∀ k, hasKey k kvs = true → hasKey k acc = false) →
    sanitizeD (Json.toPyO kvs) acc = some (acc ++ kvs)
  | [], acc, _, _, _ => by simp [Json.toPyO, sanitizeD]
  | (k, v) :: kvs, acc, h1, h2, h3 => by
    simp only [Json.wfO, Bool.and_eq_true] at h1
    simp only [keysDistinct, Bool.and_eq_true, Bool.not_eq_true'] at h2
    have hk : hasKey k acc = false := h3 k (by rw [hasKey_cons, beq_self_eq_true, Bool.true_or])
    simp only [Json.toPyO, sanitizeD, keyToStr, sanitize_toPy v h1.1]
    rw [dictSet_append_of_not_hasKey k v acc hk]
    have := sanitizeD_toPyO kvs (acc ++ [(k, v)]) h1.2 h2.2 (by
      intro k' hk'
      have hne : (k == k') = false := by
        cases hkk : (k == k') with
        | false => rfl
        | true => rw [← eq_of_beq hkk, show hasKey k kvs = false from h2.1] at hk'; cases hk'
      rw [hasKey_append, h3 k' (by rw [hasKey_cons, hk', Bool.or_true]), hasKey_cons, hne]; rfl)
    simpa using this
end


/-- a key `json.dumps` accepts -/
def PyKey.jsonable : PyKey → Bool
  | .other => false
  | _ => true

mutual
/-- JSON-representable, stated independently of `sanitize`: built from None, bools, numbers, strings,
    lists, tuples and dicts (and subclasses) with keys of type str, int, float, bool or None -/
def PyVal.jsonable : PyVal → Bool
  | .other => false
  | .list _ xs => PyVal.jsonableL xs
  | .tuple _ xs => PyVal.jsonableL xs
  | .dict _ kvs => PyVal.jsonableD kvs
  | _ => true
def PyVal.jsonableL : List PyVal → Bool
  | [] => true
  | x :: xs => x.jsonable && PyVal.jsonableL xs
def PyVal.jsonableD : List (PyKey × PyVal) → Bool
  | [] => true
  | (k, v) :: r => k.jsonable && v.jsonable && PyVal.jsonableD r
end

theorem keyToStr_isSome (k : PyKey) : (keyToStr k).isSome = k.jsonable := by
  cases k with
  | flt n r => cases n <;> simp [keyToStr, PyKey.jsonable] <;> (rename_i b; cases b <;> simp)
  | bool b => cases b <;> simp [keyToStr, PyKey.jsonable]
  | _ => simp [keyToStr, PyKey.jsonable]

mutual
theorem sanitize_isSome : (v : PyVal) → (sanitize v).isSome = v.jsonable
  | .null => by simp [sanitize, PyVal.jsonable]
  | .bool _ => by simp [sanitize, PyVal.jsonable]
  | .int _ _ => by simp [sanitize, PyVal.jsonable]
  | .flt _ _ => by simp [sanitize, PyVal.jsonable]
  | .str _ _ => by simp [sanitize, PyVal.jsonable]
  | .list _ xs => by simp [sanitize, PyVal.jsonable, sanitizeL_isSome xs]
  | .tuple _ xs => by simp [sanitize, PyVal.jsonable, sanitizeL_isSome xs]
  | .dict _ kvs => by simp [sanitize, PyVal.jsonable, sanitizeD_isSome kvs []]
  | .other => by simp [sanitize, PyVal.jsonable]
theorem sanitizeL_isSome : (vs : List PyVal) → (sanitizeL vs).isSome = PyVal.jsonableL vs
  | [] => by simp [sanitizeL, PyVal.jsonableL]
  | v :: vs => by
    rw [PyVal.jsonableL, ← sanitize_isSome v, ← sanitizeL_isSome vs, sanitizeL]
    cases sanitize v <;> cases sanitizeL vs <;> rfl
theorem sanitizeD_isSome : (kvs : List (PyKey × PyVal)) → (acc : List (String × Json)) →
    (sanitizeD kvs acc).isSome = PyVal.jsonableD kvs
  | [], _ => by simp [sanitizeD, PyVal.jsonableD]
  | (k, v) :: kvs, acc => by
    rw [PyVal.jsonableD, ← keyToStr_isSome k, ← sanitize_isSome v, sanitizeD]
    cases keyToStr k with
    | none => rfl
    | some ks =>
      cases sanitize v with
      | none => rfl
      | some vs => exact sanitizeD_isSome kvs _
end

/-- C18: non-JSON values are rejected with `TypeError` (`none`), and only those. -/
theorem sanitize_rejects_iff (v : PyVal) : sanitize v = none ↔ v.jsonable = false := by
  have := sanitize_isSome v
  cases h : sanitize v <;> simp [h] at this ⊢ <;> simp [← this]

/-- C18: sanitising twice is sanitising once. -/
theorem sanitize_idempotent (v : PyVal) (j : Json) (h : sanitize v = some j) :
    sanitize j.toPy = some j :=
  sanitize_toPy j (sanitize_wf v j h)

/-- C18: the result of sanitize has the exact shape of a JSON round trip: no tuples anywhere,
    only string keys, and no two equal keys in an object. -/
theorem sanitize_shape (v : PyVal) (j : Json) (h : sanitize v = some j) : j.wf = true :=
  sanitize_wf v j h


theorem Num.eq_refl (a : Num) : a.eq a = true := by simp [Num.eq]
theorem Num.eq_symm (a b : Num) : a.eq b = b.eq a := by
  simp only [Num.eq]; exact decide_eq_decide.mpr ⟨fun h => h.symm, fun h => h.symm⟩
theorem Num.eq_trans (a b c : Num) (h1 : a.eq b = true) (h2 : b.eq c = true) : a.eq c = true := by
  simp only [Num.eq, decide_eq_true_eq] at *; exact h1.trans h2

/-- C18: 1 equals 1.0 (and every integer equals the float with the same value). -/
theorem isEqual_int_float (i : Int) :
    isEqual (.num (.int i)) (.num (.flt { num := i, k := 0 })) = true := by
  simp [isEqual, Num.eq, Num.key, normDy]

/-- C18: booleans never equal numbers (`True != 1`, `False != 0`). -/
theorem isEqual_bool_num (b : Bool) (n : Num) :
    isEqual (.bool b) (.num n) = false ∧ isEqual (.num n) (.bool b) = false := by
  simp [isEqual]

/-- C18: a list equals the tuple with the same elements. -/
theorem isEqual_list_tuple (xs : List Json) :
    isEqual (.arr xs) (.tup xs) = isEqual (.arr xs) (.arr xs) ∧
    isEqual (.tup xs) (.arr xs) = isEqual (.arr xs) (.arr xs) := by
  simp [isEqual]

theorem lookupWith_self (f : Json → Bool) (k : String) (v : Json) (a : List (String × Json))
    (hd : keysDistinct a = true) (hm : (k, v) ∈ a) : lookupWith f k a = f v := by
  induction a with
  | nil => cases hm
  | cons x r ih =>
    obtain ⟨kx, vx⟩ := x
    simp only [keysDistinct, Bool.and_eq_true, Bool.not_eq_true'] at hd
    simp only [lookupWith]
    cases hm with
    | head => simp
    | tail _ hm' =>
      have hne : ¬ k = kx := by
        intro e; subst e
        have : (r.any fun x => x.1 == k) = true := List.any_eq_true.mpr ⟨(k, v), hm', by simp⟩
        rw [hd.1] at this; cases this
      simp only [hne, if_false]
      exact ih hd.2 hm'

mutual
theorem isEqual_refl : (j : Json) → j.wf = true → isEqual j j = true
  | .null, _ => by simp [isEqual]
  | .bool _, _ => by simp [isEqual]
  | .num n, _ => by simp [isEqual, Num.eq_refl]
  | .str _, _ => by simp [isEqual]
  | .arr xs, h => by simp only [Json.wf] at h; simpa [isEqual] using isEqualL_refl xs h
  | .tup _, h => by simp [Json.wf] at h
  | .obj kvs, h => by
    simp only [Json.wf, Bool.and_eq_true] at h
    simp only [isEqual, beq_self_eq_true, Bool.true_and]
    exact subObj_refl kvs kvs h.1 h.2 (fun _ hx => hx)
theorem isEqualL_refl : (xs : List Json) → Json.wfL xs = true → isEqualL xs xs = true
  | [], _ => by simp [isEqualL]
  | x :: xs, h => by
    simp only [Json.wfL, Bool.and_eq_true] at h
    simp [isEqualL, isEqual_refl x h.1, isEqualL_refl xs h.2]
theorem subObj_refl : (r a : List (String × Json)) → Json.wfO r = true → keysDistinct a = true →
    (∀ x, x ∈ r → x ∈ a) → subObj r a = true
  | [], _, _, _, _ => by simp [subObj]
  | (k, v) :: r, a, h1, h2, h3 => by
    simp only [Json.wfO, Bool.and_eq_true] at h1
    simp only [subObj, Bool.and_eq_true]
    refine ⟨?_, subObj_refl r a h1.2 h2 (fun x hx => h3 x (List.mem_cons_of_mem _ hx))⟩
    rw [lookupWith_self _ k v a h2 (h3 (k, v) (by simp))]
    exact isEqual_refl v h1.1
end


mutual
/-- **C18**: `to_hashable(a) == to_hashable(b)` (Python `==`, so `(1,) == (1.0,)` etc. are in scope)
    iff `is_equal(a, b)`, for all sanitized values. -/
theorem toHashable_iff : (a : Json) → a.wf = true → (b : Json) → b.wf = true →
    heq (toH a) (toH b) = isEqual a b
  | .null, _, b, hb => by
    cases b with
    | bool y => cases y <;> rfl
    | tup ys => cases hb
    | _ => rfl
  | .bool x, _, b, hb => by
    cases b with
    | bool y => cases x <;> cases y <;> rfl
    | arr ys => cases x <;> rfl
    | tup ys => cases hb
    | obj kb => cases x <;> simp [toH, heq, isEqual, heqL_num_flatten]
    | null => cases x <;> rfl
    | num n => cases x <;> rfl
    | str s => cases x <;> rfl
  | .num n, _, b, hb => by
    cases b with
    | bool y => cases y <;> rfl
    | num m => rfl
    | tup ys => cases hb
    | _ => rfl
  | .str s, _, b, hb => by
    cases b with
    | bool y => cases y <;> rfl
    | str t => rfl
    | tup ys => cases hb
    | _ => rfl
  | .arr xs, ha, b, hb => by
    simp only [Json.wf] at ha
    cases b with
    | arr ys =>
      simp only [Json.wf] at hb
      simp only [toH, heq, heqL, isEqual, numEq_01, Bool.true_and]
      exact toHashableL_iff xs ha ys hb
    | bool y => cases y <;> rfl
    | tup ys => cases hb
    | obj kb => simp [toH, heq, isEqual, heqL_num_flatten]
    | _ => rfl
  | .tup _, ha, _, _ => by cases ha
  | .obj ka, ha, b, hb => by
    simp only [Json.wf, Bool.and_eq_true] at ha
    cases b with
    | obj kb =>
      simp only [Json.wf, Bool.and_eq_true] at hb
      simp only [toH, heq, isEqual]
      rw [heqL_flatten_sortKeys (toHO ka) (toHO kb)
        (by rw [keysOf_toHO]; exact (keysDistinct_iff_nodup ka).mp ha.2)
        (by rw [keysOf_toHO]; exact (keysDistinct_iff_nodup kb).mp hb.2)]
      unfold objEqH
      rw [length_toHO, length_toHO, toHashableO_iff ka ha.1 kb hb.1]
    | bool y => cases y <;> simp [toH, heq, isEqual, heqL_flatten_num]
    | arr ys => simp [toH, heq, isEqual, heqL_flatten_num]
    | tup ys => cases hb
    | _ => rfl
theorem toHashableL_iff : (xs : List Json) → Json.wfL xs = true → (ys : List Json) → Json.wfL ys = true →
    heqL (toHL xs) (toHL ys) = isEqualL xs ys
  | [], _, ys, _ => by cases ys <;> simp [toHL, heqL, isEqualL]
  | x :: xs, ha, ys, hb => by
    simp only [Json.wfL, Bool.and_eq_true] at ha
    cases ys with
    | nil => simp [toHL, heqL, isEqualL]
    | cons y ys =>
      simp only [Json.wfL, Bool.and_eq_true] at hb
      simp only [toHL, heqL, isEqualL]
      rw [toHashable_iff x ha.1 y hb.1, toHashableL_iff xs ha.2 ys hb.2]
theorem toHashableO_iff : (ka : List (String × Json)) → Json.wfO ka = true →
    (kb : List (String × Json)) → Json.wfO kb = true →
    (toHO ka).all (fun x => lookupH (heq x.2) x.1 (toHO kb)) = subObj ka kb
  | [], _, kb, _ => by simp [toHO, subObj]
  | (k, v) :: ka, ha, kb, hb => by
    simp only [Json.wfO, Bool.and_eq_true] at ha
    simp only [toHO, List.all_cons, subObj]
    rw [toHashableO_iff ka ha.2 kb hb]
    congr 1
    -- the lookup of one key
    induction kb with
    | nil => simp [toHO, lookupH, lookupWith]
    | cons y r ih =>
      obtain ⟨k', v'⟩ := y
      simp only [Json.wfO, Bool.and_eq_true] at hb
      simp only [toHO, lookupH, lookupWith]
      split
      · exact toHashable_iff v ha.1 v' hb.1
      · exact ih hb.2
end

/-- C18: the JSON equality is symmetric on sanitized values.  `isEqual` compares objects by looking every key of the
    first up in the second, which is not symmetric on the face of it; `heq` on the hashable forms is symmetric and
    transitive by structure, so both laws go through `toHashable_iff`. -/
theorem isEqual_symm (a b : Json) (ha : a.wf = true) (hb : b.wf = true) : isEqual a b = isEqual b a := by
  rw [← toHashable_iff a ha b hb, ← toHashable_iff b hb a ha, heq_symm]

/-- C18: the JSON equality is transitive on sanitized values. -/
theorem isEqual_trans (a b c : Json) (ha : a.wf = true) (hb : b.wf = true) (hc : c.wf = true)
    (h1 : isEqual a b = true) (h2 : isEqual b c = true) : isEqual a c = true := by
  rw [← toHashable_iff a ha b hb] at h1
  rw [← toHashable_iff b hb c hc] at h2
  rw [← toHashable_iff a ha c hc]
  exact heq_trans _ _ _ h1 h2

example : isEqual (.obj [("a", .num (.int 1)), ("b", .arr [.bool true])])
    (.obj [("b", .tup [.bool true]), ("a", .num (.flt { num := 2, k := 1 }))]) = true := by decide

end FB

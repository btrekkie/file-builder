/-
  C05 — record trees of ANY nesting depth (the callee of a `build_file` or `subbuild` may call `build_file` /
  `subbuild` again): whether every call in a tree succeeded, the targets and the function names in it, what these are
  on the records `Impl.run` writes, and `run_absent`: a first run creates entries only at its targets and at the
  directories above them.
-/
import FB.Props.C05FirstRun
namespace FB
open FS Spec Impl

mutual
/-- every call in the record tree succeeded (at every depth) -/
def okDeep : Op → Bool
  | .simple _ _ _ _ => true
  | .buildFile _ _ _ _ _ subs _ _ raised sf _ => !raised && !sf && okDeepL subs
  | .subbuild _ _ _ subs _ raised sf => !raised && !sf && okDeepL subs
def okDeepL : List Op → Bool
  | [] => true
  | o :: os => okDeep o && okDeepL os
end

mutual
/-- the targets of all `build_file` records that got past their set-up, at every depth, in execution order
    (a call's nested targets come before its own: it is finished last) -/
def targetsDeep : Op → List Path
  | .simple _ _ _ _ => []
  | .buildFile p _ _ _ _ subs _ _ _ sf _ => targetsDeepL subs ++ (if sf then [] else [p])
  | .subbuild _ _ _ subs _ _ _ => targetsDeepL subs
def targetsDeepL : List Op → List Path
  | [] => []
  | o :: os => targetsDeep o ++ targetsDeepL os
end

mutual
/-- the names of the functions of all calls in the record tree -/
def fnamesDeep : Op → List String
  | .simple _ _ _ _ => []
  | .buildFile _ _ f _ _ subs _ _ _ _ _ => f :: fnamesDeepL subs
  | .subbuild f _ _ subs _ _ _ => f :: fnamesDeepL subs
def fnamesDeepL : List Op → List String
  | [] => []
  | o :: os => fnamesDeep o ++ fnamesDeepL os
end

theorem okDeepL_cons (o : Op) (os : List Op) : okDeepL (o :: os) = (okDeep o && okDeepL os) := by
  simp [okDeepL]

theorem targetsDeepL_cons (o : Op) (os : List Op) : targetsDeepL (o :: os) = targetsDeep o ++ targetsDeepL os := by
  simp [targetsDeepL]

theorem fnamesDeepL_cons (o : Op) (os : List Op) : fnamesDeepL (o :: os) = fnamesDeep o ++ fnamesDeepL os := by
  simp [fnamesDeepL]

theorem targetsDeep_execFileOp (path : Path) (cmp : Cmp) (fname : String) (args kwargs : Json) (subs : List Op)
    (rb r' : CallRes) (s3 : KSt) :
    targetsDeep (execFileOp path cmp fname args kwargs subs rb r' s3) = targetsDeepL subs ++ [path] := by
  unfold execFileOp
  cases r' <;> simp [targetsDeep]

theorem targetsDeep_execSubOp (fname : String) (args kwargs : Json) (subs : List Op) (r : CallRes) :
    targetsDeep (execSubOp fname args kwargs subs r) = targetsDeepL subs := by
  cases r <;> simp [execSubOp, targetsDeep]

theorem fnamesDeep_execFileOp (path : Path) (cmp : Cmp) (fname : String) (args kwargs : Json) (subs : List Op)
    (rb r' : CallRes) (s3 : KSt) :
    fnamesDeep (execFileOp path cmp fname args kwargs subs rb r' s3) = fname :: fnamesDeepL subs := by
  unfold execFileOp
  cases r' <;> simp [fnamesDeep]

theorem fnamesDeep_execSubOp (fname : String) (args kwargs : Json) (subs : List Op) (r : CallRes) :
    fnamesDeep (execSubOp fname args kwargs subs r) = fname :: fnamesDeepL subs := by
  cases r <;> simp [execSubOp, fnamesDeep]

theorem okDeep_execFileOp (path : Path) (cmp : Cmp) (fname : String) (args kwargs : Json) (subs : List Op)
    (rb r' : CallRes) (s3 : KSt) (h : okDeep (execFileOp path cmp fname args kwargs subs rb r' s3) = true) :
    (∃ j, r' = .ok j) ∧ okDeepL subs = true := by
  unfold execFileOp at h
  cases r' with
  | ok j => simp [okDeep] at h; exact ⟨⟨j, rfl⟩, h⟩
  | error e => simp [okDeep] at h

theorem okDeep_execSubOp (fname : String) (args kwargs : Json) (subs : List Op) (r : CallRes)
    (h : okDeep (execSubOp fname args kwargs subs r) = true) : (∃ j, r = .ok j) ∧ okDeepL subs = true := by
  cases r with
  | ok j => simp [execSubOp, okDeep] at h; exact ⟨⟨j, rfl⟩, h⟩
  | error e => simp [execSubOp, okDeep] at h

/-- no path is another's prefix: the documented obligation that no output lies inside another -/
def Antichain (l : List Path) : Prop := l.Pairwise (fun a b => a ≠ b ∧ ¬ a <+: b ∧ ¬ b <+: a)

theorem Antichain.ne_of_mem_append {l r : List Path} (h : Antichain (l ++ r)) {a b : Path} (ha : a ∈ l) (hb : b ∈ r) :
    a ≠ b ∧ ¬ a <+: b ∧ ¬ b <+: a := by
  unfold Antichain at h
  rw [List.pairwise_append] at h
  exact h.2.2 a ha b hb

theorem Antichain.left {l r : List Path} (h : Antichain (l ++ r)) : Antichain l := by
  unfold Antichain at h ⊢; rw [List.pairwise_append] at h; exact h.1

theorem Antichain.right {l r : List Path} (h : Antichain (l ++ r)) : Antichain r := by
  unfold Antichain at h ⊢; rw [List.pairwise_append] at h; exact h.2.1

/-- the targets of a `build_file` call: those nested in it (`t1`), its own, and then those of the rest of the run (`t3`) -/
theorem Antichain.call {t1 t3 : List Path} {path : Path} (h : Antichain ((t1 ++ [path]) ++ t3)) :
    (∀ p ∈ t1, p ≠ path ∧ ¬ p <+: path ∧ ¬ path <+: p) ∧ (∀ p ∈ t3, p ≠ path ∧ ¬ p <+: path ∧ ¬ path <+: p) ∧
    (∀ p ∈ t3, ∀ p' ∈ t1, ¬ p <+: p' ∧ ¬ p' <+: p) :=
  ⟨fun _ hp => Antichain.ne_of_mem_append h.left hp (List.mem_singleton.mpr rfl),
   fun _ hp =>
    have := Antichain.ne_of_mem_append h (List.mem_append_right _ (List.mem_singleton.mpr rfl)) hp
    ⟨fun e => this.1 e.symm, this.2.2, this.2.1⟩,
   fun _ hp _ hp' =>
    have := Antichain.ne_of_mem_append h (List.mem_append_left _ hp') hp
    ⟨this.2.2, this.2.1⟩⟩

theorem FirstRun.absent {prog : Prog} {t : Option Path} {s e : KSt} {r : CallRes} {ops : List Op}
    (h : FirstRun prog t s r e ops) : ∀ q : Path, s.sp.fs.get q = none → (∀ p ∈ targetsDeepL ops, ¬ q <+: p) →
    e.sp.fs.get q = none := by
  induction h with
  | ret v t s => intro q h _; exact h
  | raise x t s => intro q h _; exact h
  | query q k t s v x hrec _ ih => intro q h hp; exact ih q h hp
  | writeOut b mt k s _ ih => exact ih
  | writeIn b mt k p s _ ih => exact ih
  | bfSetupFail path cmp fname args kwargs body k t s x hsetup _ ih =>
    intro q h hp
    exact ih q h (fun p hpm => hp p (by rw [targetsDeepL_cons]; exact List.mem_append_right _ hpm))
  | bfMiss path cmp fname args kwargs body k t s sp1 made rb sb subs r s2 ops s1 s3 hs1 hs3 hf hsetup hout hrest hf1 hkb hf3 hkr _ _ ihb ihk =>
    subst hs1 hs3
    intro q h hp
    obtain ⟨rfl, _, _, _, _, _⟩ := bfSetup_ok_fields s.sp sp1 path made hsetup
    obtain ⟨_, hmade, _, _⟩ := bfSetup_ok_made _ _ _ _ hsetup
    rw [targetsDeepL_cons, targetsDeep_execFileOp] at hp
    have hqp : ¬ q <+: path := hp path (List.mem_append_left _ (List.mem_append_right _ (List.mem_singleton.mpr rfl)))
    have hqne : q ≠ path := fun e => hqp (e ▸ List.prefix_refl _)
    exact ihk q (bfFinish_absent _ _ _ _ _ hqne
        (ihb q (setupState_absent _ _ _ _ hqne (fun hm => hqp (hmade q hm)) h)
          (fun p hpm => hp p (List.mem_append_left _ (List.mem_append_left _ hpm)))))
      (fun p hpm => hp p (List.mem_append_right _ hpm))
  | sbDup fname args kwargs body k t s hcl _ ih =>
    intro q h hp
    exact ih q h (fun p hpm => hp p (by rw [targetsDeepL_cons]; exact List.mem_append_right _ hpm))
  | sbMiss fname args kwargs body k t s rb sb subs r s2 ops s1 hs1 hf hcl hout hrest hkb hf3 hkr _ _ ihb ihk =>
    subst hs1
    intro q h hp
    rw [targetsDeepL_cons, targetsDeep_execSubOp] at hp
    exact ihk q (ihb q h (fun p hpm => hp p (List.mem_append_left _ hpm))) (fun p hpm => hp p (List.mem_append_right _ hpm))

/-- a run creates entries only at its targets and at the directories above them -/
theorem run_absent (prog : Prog) : ∀ (t : Option Path) (s : KSt) (q : Path), s.old.roots = [] → s.sp.failFiles = [] →
    s.sp.failSubs = [] → s.sp.fs.get q = none → (∀ p ∈ targetsDeepL (Impl.run prog t s).2.2, ¬ q <+: p) →
    (Impl.run prog t s).2.1.sp.fs.get q = none :=
  fun t s q h0 h1 h2 => (firstRun prog t s ⟨h0, h1, h2⟩).absent q

theorem run_absent_eq {prog : Prog} {t : Option Path} {s : KSt} {r : CallRes} {e : KSt} {ops : List Op}
    (h : Impl.run prog t s = (r, e, ops)) (q : Path) (h0 : s.old.roots = []) (h1 : s.sp.failFiles = [])
    (h2 : s.sp.failSubs = []) (hq : s.sp.fs.get q = none) (hp : ∀ p ∈ targetsDeepL ops, ¬ q <+: p) : e.sp.fs.get q = none :=
  (firstRun_of_eq h ⟨h0, h1, h2⟩).absent q hq hp

end FB

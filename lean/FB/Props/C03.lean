/-
  C03 — foreign files and directories, on the reference semantics: whatever a build does while its
  functions run, a regular file is only ever touched at a path that was passed to `build_file` in this
  build, and a directory that existed when the build started is never removed.  (The clean-up before
  the functions run is `Spec.preClean`, framed by `C12_preClean_frame`; rollback by `C02_rolledBack_*`.)
-/
import FB.Lemmas.RunPending
import FB.Props.C04
namespace FB
open FS Spec

/-- what a run may have done to the tree it started from (`s0`) -/
structure Frame (s0 s : SpecSt) : Prop where
  /-- a directory that existed at the start still exists -/
  dirs : ∀ q, s0.fs.get q = some .dir → s.fs.get q = some .dir
  /-- a regular file that existed at the start and whose path was not passed to `build_file` is there,
      with the same bytes and modification time -/
  files : ∀ q b m, s0.fs.get q = some (.file b m) → q ∉ s.claimedFiles → s.fs.get q = some (.file b m)

theorem Frame.refl (s : SpecSt) : Frame s s := ⟨fun _ h => h, fun _ _ _ h _ => h⟩

/-- the directories `_dirs_to_make` returns do not exist -/
theorem dirsToMake_absent (s : SpecSt) : ∀ (n : Nat) (d : Path) (ds : List Path), d.length = n →
    dirsToMake (visible s) s.cacheFile s.inProg d = .ok ds → ∀ q ∈ ds, s.fs.get q = none := by
  intro _ d ds _ h q hq
  obtain ⟨_, _, hnd, hnf, hcf, hnb⟩ := dirsToMake_mem h hq
  rw [← C04_visible_elsewhere s q hnb hcf]
  cases hg : (visible s).get q with
  | none => rfl
  | some e =>
    cases e with
    | dir => simp [isDir, hg] at hnd
    | file b m => simp [isFile, hg] at hnf

/-- so none of them was a directory when the run started -/
theorem Frame.made_absent {s0 sp : SpecSt} (h : Frame s0 sp) {d : Path} {made : List Path}
    (hdm : dirsToMake (visible sp) sp.cacheFile sp.inProg d = .ok made) : ∀ q ∈ made, s0.fs.get q ≠ some .dir := by
  intro q hq hdq
  have := dirsToMake_absent sp _ _ _ rfl hdm q hq
  rw [h.dirs q hdq] at this; cases this

theorem setupState_frame (s0 sp : SpecSt) (path : Path) (made : List Path) (h : Frame s0 sp)
    (hnd : sp.fs.isDir path = false) : Frame s0 (setupState sp path made) := by
  constructor
  · intro q hq
    have h1 := h.dirs q hq
    have h2 : (mkdirs sp.fs made).get q = some .dir := by
      rcases mkdirs_get made sp.fs q with h' | ⟨hn, _⟩
      · rw [h', h1]
      · rw [h1] at hn; cases hn
    have hqp : q ≠ path := by
      intro e; subst e; simp [isDir, h1] at hnd
    simp only [setupState]
    split
    · rw [get_erase_ne _ _ _ hqp]; exact h2
    · exact h2
  · intro q b m hq hncl
    have hqp : q ≠ path := by
      intro e; apply hncl; simp [setupState, e]
    have hncl' : q ∉ sp.claimedFiles := by
      intro hm; apply hncl; simp [setupState, hm]
    have h1 := h.files q b m hq hncl'
    have h2 := mkdirs_file made sp.fs q b m h1
    simp only [setupState]
    split
    · rw [get_erase_ne _ _ _ hqp]; exact h2
    · exact h2

theorem bfFinish_frame (s0 sp2 : SpecSt) (path : Path) (made : List Path) (r : CallRes)
    (h : Frame s0 sp2) (hmade : ∀ q ∈ made, s0.fs.get q ≠ some .dir)
    (hpd : s0.fs.get path ≠ some .dir) (hcl : path ∈ sp2.claimedFiles) :
    Frame s0 (bfFinish sp2 path made r).2 := by
  have hfail : ∀ e, Frame s0 (bfFinish sp2 path made (.error e)).2 := by
    intro e
    constructor
    · intro q hq
      have h1 := h.dirs q hq
      simp only [bfFinish]
      rcases rmEmpty_get made sp2.fs q with h' | ⟨hm, _, _⟩
      · rw [h', h1]
      · exact absurd hq (hmade q hm)
    · intro q b m hq hncl
      have h1 := h.files q b m hq hncl
      simp only [bfFinish]
      exact rmEmpty_file made sp2.fs q b m h1
  cases r with
  | error e => exact hfail e
  | ok j =>
    cases hw : pendingFind sp2.pending path with
    | none =>
      have : (bfFinish sp2 path made (.ok j)).2 = (bfFinish sp2 path made (.error (notCreatedExc path))).2 := by
        simp [bfFinish, hw]
      rw [this]; exact hfail _
    | some bm =>
      obtain ⟨b', m'⟩ := bm
      constructor
      · intro q hq
        have hqp : q ≠ path := by intro e; subst e; exact hpd hq
        simp only [bfFinish, hw]
        rw [get_set_ne _ _ _ _ hqp]; exact h.dirs q hq
      · intro q b m hq hncl
        have hc : (bfFinish sp2 path made (.ok j)).2.claimedFiles = sp2.claimedFiles := bfFinish_claimed _ _ _ _
        rw [hc] at hncl
        have hqp : q ≠ path := by intro e; subst e; exact hncl hcl
        simp only [bfFinish, hw]
        rw [get_set_ne _ _ _ _ hqp]; exact h.files q b m hq hncl

/-- C03 (reference semantics, while the functions run): every program, every starting tree, every
    nesting of calls and caught failures. -/
theorem C03_run_frame (prog : Prog) : ∀ (t : Option Path) (s0 sp : SpecSt),
    Frame s0 sp → Frame s0 (run prog t sp).2.1 := by
  induction prog with
  | ret v => intro t s0 sp h; rw [run]; cases sanitize v <;> exact h
  | raise e => intro t s0 sp h; exact h
  | query q k ih => intro t s0 sp h; rw [run]; exact ih _ t s0 sp h
  | write b mt k ih =>
    intro t s0 sp h
    simp only [run]
    cases t with
    | none => exact ih none s0 sp h
    | some p => exact ih (some p) s0 _ ⟨h.dirs, h.files⟩
  | buildFile path cmp fname args kwargs body k ihb ihk =>
    intro t s0 sp h
    cases hs : bfSetup sp path with
    | error e => rw [run_bf_refused hs]; exact ihk _ t s0 (setupFailState sp path e) ⟨h.dirs, h.files⟩
    | ok r =>
      obtain ⟨s1, made⟩ := r
      rw [run_bf_ok hs]
      obtain ⟨rfl, hncl, _, hnd, hdm, _⟩ := bfSetup_ok_fields _ _ _ _ hs
      have hmade := h.made_absent hdm
      have hpd : s0.fs.get path ≠ some .dir := by
        intro hdq; simp [isDir, h.dirs path hdq] at hnd
      have hf1 := setupState_frame s0 sp path made h hnd
      generalize hst : ({ setupState sp path made with
        invLog := ⟨fname, some path, args, kwargs⟩ :: (setupState sp path made).invLog } : SpecSt) = s1'
      have hcl1 : path ∈ s1'.claimedFiles := by subst hst; exact List.mem_cons_self ..
      have hb := ihb (some path) s0 s1' (by subst hst; exact ⟨hf1.dirs, hf1.files⟩)
      exact ihk _ t s0 _ (bfFinish_frame s0 _ path made _ hb hmade hpd ((run_keeps_claimed body (some path) s1').1 path hcl1))
  | subbuild fname args kwargs body k ihb ihk =>
    intro t s0 sp h
    cases hdup : sp.claimedSubs.any (heq (subKey fname args kwargs)) with
    | true => rw [run_sb_dup hdup]; exact ihk _ t s0 sp h
    | false =>
      cases hflt : sp.failSubs.any (heq (subKey fname args kwargs)) with
      | true => rw [run_sb_fault hdup hflt]; exact ihk _ t s0 (consumeSubFault sp _) ⟨h.dirs, h.files⟩
      | false =>
        rw [run_sb_run hdup hflt]
        exact ihk _ t s0 _ (ihb none s0 (subStart sp fname args kwargs) ⟨h.dirs, h.files⟩)

/-- premises are satisfiable and the conclusion says something: a foreign file next to an output -/
example :
    let s : SpecSt := { fs := [(["d"], .dir), (["d", "keep"], .file "k" 7)], cacheFile := ["c"], dirSize := 0, clock := 1000000 }
    let prog : Prog := .buildFile ["d", "x"] .metadata "f" .null .null (.write "o" none (.ret .null)) (fun _ => .ret .null)
    (run prog none s).2.1.fs.get ["d", "keep"] = some (.file "k" 7) ∧
    (run prog none s).2.1.fs.get ["d", "x"] = some (.file "o" 1000000) := by
  decide +kernel

/-- C03, closed form: from the state in which the root function starts. -/
theorem C03_run (prog : Prog) (t : Option Path) (s : SpecSt) : Frame s (run prog t s).2.1 :=
  C03_run_frame prog t s s (Frame.refl s)

end FB

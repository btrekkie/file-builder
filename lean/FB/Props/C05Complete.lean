/-
  C05 — completeness of reuse for calls whose functions make no nested call (`…_partial`).

  Full statement of C05's second half: *if nothing a record observed has changed, the record is reused*.
  `replay_sound`/`run_refines` prove the converse direction (a reuse is never wrong).  Here:

  * `replay_simple_complete` — a recorded query is accepted in every state that shows the same tree
    (no restriction);
  * `leaf_run_replays` — the record list of a function that only queries, writes its target and returns is
    accepted again, and leaves the state as it was, in every state that shows the same tree;
  * `C05_leaf_file_reused_partial`, `C05_leaf_sub_reused_partial` — hence an unchanged *leaf* call (a call
    whose function makes no nested `build_file`/`subbuild` call) is never re-executed.

  For calls whose functions make nested calls the shelf of leftovers has to supply every nested output at the
  moment its record is replayed: `replay_runF` (`C05NestedFail`).
-/
import FB.Props.C01Follows
namespace FB
open FS Spec Impl

theorem isEqualL_strs_refl (l : List String) : isEqualL (l.map .str) (l.map .str) = true := by
  induction l with
  | nil => simp [isEqualL]
  | cons x r ih => simp [isEqualL, isEqual, ih]

theorem isEqual_strArr_refl (l : List String) : isEqual (strArr l) (strArr l) = true := by
  simp only [strArr, isEqual]; exact isEqualL_strs_refl l

theorem isEqualL_walk_refl (l : List Json) (hl : IsWalkList l) : isEqualL l l = true := by
  induction l with
  | nil => simp [isEqualL]
  | cons x r ih =>
    obtain ⟨p, ds, fs, rfl⟩ := hl x (List.mem_cons_self ..)
    have := ih (fun y hy => hl y (List.mem_cons_of_mem _ hy))
    simp [isEqualL, walkEntry, isEqual, isEqual_strArr_refl, this]

theorem cmpResult_refl (cmp : Cmp) (b : String) (m : Nat) : isEqual (View.cmpResult cmp b m) (View.cmpResult cmp b m) = true := by
  cases cmp <;> simp [View.cmpResult, isEqual, subObj, lookupWith, Num.eq]

/-- every value a query records equals itself (values are lists of names, numbers, booleans, comparison results) -/
theorem recVal_refl (ds : Nat) (f : FS) (q : Query) (v : Json) (h : View.recVal ds f q = .ok v) : isEqual v v = true := by
  cases q with
  | isFile p => simp [View.recVal] at h; subst h; simp [isEqual]
  | isDir p => simp [View.recVal] at h; subst h; simp [isEqual]
  | exists_ p => simp [View.recVal] at h; subst h; simp [isEqual]
  | listDir p =>
    simp only [View.recVal] at h
    cases hl : View.listDir f p with
    | error e => simp [hl] at h
    | ok l => simp [hl] at h; subst h; exact isEqual_strArr_refl l
  | walk p td =>
    simp [View.recVal] at h; subst h
    simp only [isEqual]
    exact isEqualL_walk_refl _ (isWalkList_walk _ _ _)
  | getSize p =>
    simp only [View.recVal] at h
    cases hl : View.getSize ds f p with
    | error e => simp [hl] at h
    | ok n => simp [hl] at h; subst h; simp [isEqual, Num.eq]
  | read p cmp =>
    simp only [View.recVal] at h
    cases hg : f.get p with
    | none => simp [hg] at h
    | some x =>
      cases x with
      | dir => simp [hg] at h
      | file b m => simp [hg] at h; subst h; exact cmpResult_refl cmp b m

/-- the record `Impl.run` writes for a query answered from the tree `f` -/
def recordOf (ds : Nat) (f : FS) (q : Query) : Op :=
  match View.recVal ds f q with
  | .ok v => Op.simple q v none (View.answer ds f q)
  | .error e => Op.simple q .null (some e) (View.answer ds f q)

/-- **a recorded query is accepted wherever the tree looks the same** -/
theorem replay_simple_complete (s : KSt) (q : Query) :
    replayOp (recordOf s.sp.dirSize (visible s.sp) q) s = some s := by
  unfold recordOf
  cases h : View.recVal s.sp.dirSize (visible s.sp) q with
  | ok v => simp [replayOp, h, recVal_refl _ _ _ _ h]
  | error e => simp [replayOp, h, isEqual]


/-- functions that only query, write their target and return: no nested `build_file`/`subbuild` -/
inductive Leaf : Prog → Prop
  | ret (v : PyVal) : Leaf (.ret v)
  | raise (e : Exc) : Leaf (.raise e)
  | query (q : Query) (k : UAns → Prog) : (∀ a, Leaf (k a)) → Leaf (.query q k)
  | write (b : String) (mt : Option Nat) (k : Prog) : Leaf k → Leaf (.write b mt k)

/-- the state with other pending writes and another clock -/
def setPC (s : KSt) (pend : List (Path × String × Nat)) (clk : Nat) : KSt :=
  { s with sp := { s.sp with pending := pend, clock := clk } }

/-- a leaf function changes nothing but its own pending output and the clock, and its record list is
    accepted again — leaving the state as it is — wherever the tree looks the same -/
theorem leaf_run_replays {prog : Prog} (h : Leaf prog) : ∀ (t : Option Path) (s : KSt),
    (∃ pend clk, (Impl.run prog t s).2.1 = setPC s pend clk) ∧
    ∀ s' : KSt, visible s'.sp = visible s.sp → s'.sp.dirSize = s.sp.dirSize →
      replayOps (Impl.run prog t s).2.2 s' = some s' := by
  induction h with
  | ret v =>
    intro t s
    simp only [Impl.run]
    split
    · exact ⟨⟨s.sp.pending, s.sp.clock, rfl⟩, fun s' _ _ => by simp [replayOps]⟩
    · exact ⟨⟨s.sp.pending, s.sp.clock, rfl⟩, fun s' _ _ => by simp [replayOps]⟩
  | raise e =>
    intro t s
    simp only [Impl.run]
    exact ⟨⟨s.sp.pending, s.sp.clock, rfl⟩, fun s' _ _ => by simp [replayOps]⟩
  | query q k _ ih =>
    intro t s
    obtain ⟨hst, hrep⟩ := ih (View.answer s.sp.dirSize (visible s.sp) q) t s
    simp only [Impl.run]
    refine ⟨hst, ?_⟩
    intro s' hv hd
    have hop := replay_simple_complete s' q
    rw [hv, hd] at hop
    unfold recordOf at hop
    simp only [replayOps]
    cases hrv : View.recVal s.sp.dirSize (visible s.sp) q with
    | ok v =>
      rw [hrv] at hop
      simp only [hop]
      exact hrep s' hv hd
    | error e =>
      rw [hrv] at hop
      simp only [hop]
      exact hrep s' hv hd
  | write b mt k _ ih =>
    intro t s
    cases t with
    | none => simp only [Impl.run]; exact ih none s
    | some p =>
      simp only [Impl.run]
      obtain ⟨⟨pend, clk, hst⟩, hrep⟩ := ih (some p) (liftSp s fun sp => { sp with pending := (p, b, mt.getD sp.clock) :: sp.pending, clock := sp.clock + 1 })
      exact ⟨⟨pend, clk, hst⟩, fun s' hv hd => hrep s' hv hd⟩

theorem cmpResult_ne_null (cmp : Cmp) (b : String) (m : Nat) : View.cmpResult cmp b m ≠ .null := by
  cases cmp <;> simp [View.cmpResult]

/-- **C05, leaf `build_file` (partial)**: a call whose function made no nested calls and succeeded is served
    from its record in every later state in which the tree looks as it did when the function started, the
    output file lies where and as it was written, the function's version is unchanged and the arguments are
    equal: the function is not run again. -/
theorem C05_leaf_file_reused_partial
    (s : KSt) (path : Path) (cmp : Cmp) (fname : String) (args kwargs : Json) (body : Prog) (hleaf : Leaf body)
    (sp1 : SpecSt) (made : List Path) (_hsetup : bfSetup s.sp path = .ok (sp1, made)) (j : Json)
    -- the original call ran its function (a miss) and succeeded
    (hfin : (bfFinish (Impl.run body (some path) (missStart (afterSetup s sp1 path made) path ⟨fname, some path, args, kwargs⟩)).2.1.sp
              path made (Impl.run body (some path) (missStart (afterSetup s sp1 path made) path ⟨fname, some path, args, kwargs⟩)).1).1 = .ok j)
    -- a later call, after its own setup
    (s' : KSt) (sp1' : SpecSt) (made' : List Path) (args' kwargs' : Json)
    (hne : path ≠ [])
    (hview : visible sp1' = visible sp1) (hds : sp1'.dirSize = sp1.dirSize)
    (hver : versionOk (afterSetup s' sp1' path made') fname = true)
    (hargs : isEqual args args' = true) (hkw : isEqual kwargs kwargs' = true) :
    let s1 := missStart (afterSetup s sp1 path made) path ⟨fname, some path, args, kwargs⟩
    let out := Impl.run body (some path) s1
    let sp3 := (bfFinish out.2.1.sp path made out.1).2
    let s3 := withSp out.2.1 sp3
    let content := match s3.sp.fs.get path with | some (.file b _) => b | _ => ""
    let op := Op.buildFile path cmp fname args kwargs out.2.2 j (cmpBuilt s3 path cmp) false false content
    -- the record is the one in the cache and the output is still there as it was written
    (afterSetup s' sp1' path made').old.getFile path = some op →
    (afterSetup s' sp1' path made').shelf.get path = s3.sp.fs.get path →
    ∃ r, lookupFile (afterSetup s' sp1' path made') path cmp fname args' kwargs' made' = some r := by
  intro s1 out sp3 s3 content op hold hshelf
  obtain ⟨⟨pend, clk, hst⟩, hrep⟩ := leaf_run_replays hleaf (some path) s1
  -- the written file
  have hfile : ∃ b m, s3.sp.fs.get path = some (.file b m) := by
    show ∃ b m, sp3.fs.get path = some (.file b m)
    have hfin' : (bfFinish out.2.1.sp path made out.1).1 = .ok j := hfin
    show ∃ b m, (bfFinish out.2.1.sp path made out.1).2.fs.get path = some (.file b m)
    unfold bfFinish at hfin' ⊢
    cases hr : out.1 with
    | error e => rw [hr] at hfin'; simp at hfin'
    | ok v =>
      rw [hr] at hfin'
      simp only at hfin' ⊢
      cases hw : pendingFind out.2.1.sp.pending path with
      | none => rw [hw] at hfin'; simp at hfin'
      | some x =>
        obtain ⟨b, m⟩ := x
        simp only
        exact ⟨b, m, get_set_self _ _ _ hne⟩
  obtain ⟨b, m, hget⟩ := hfile
  rw [hget] at hshelf
  have hcs : ∀ st : KSt, st.shelf = (afterSetup s' sp1' path made').shelf → cmpShelf st path cmp = View.cmpResult cmp b m := by
    intro st hst'
    simp [cmpShelf, hst', hshelf, hne]
  have hcb : cmpBuilt s3 path cmp = View.cmpResult cmp b m := by simp [cmpBuilt, hget]
  have hrep' := hrep (afterSetup s' sp1' path made') (by
      show visible sp1' = visible sp1
      exact hview) (by show sp1'.dirSize = sp1.dirSize; exact hds)
  unfold lookupFile
  rw [hold]
  have hcs0 := hcs (afterSetup s' sp1' path made') rfl
  simp only [op, hver, hargs, hkw, outputMatches, hcb, hcs0, cmpResult_refl, decide_true, Bool.and_self, Bool.true_and, if_true]
  rw [hrep']
  simp only [hcs0]
  have := cmpResult_ne_null cmp b m
  cases hc : View.cmpResult cmp b m <;> first | exact absurd hc this | exact ⟨_, rfl⟩


/-- **C05, leaf `subbuild` (partial)**: a subbuild whose function made no nested calls and returned is served
    from its record in every later state in which the tree looks the same and the version is unchanged. -/
theorem C05_leaf_sub_reused_partial
    (s : KSt) (fname : String) (args kwargs : Json) (body : Prog) (hleaf : Leaf body) (j : Json)
    (hok : (Impl.run body none (Impl.subStart (Impl.subClaim s (subKey fname args kwargs)) (⟨fname, none, args, kwargs⟩ : Inv))).1 = .ok j)
    (s' : KSt) (args' kwargs' : Json)
    (hview : visible s'.sp = visible s.sp) (hds : s'.sp.dirSize = s.sp.dirSize)
    (hver : versionOk s' fname = true)
    (hold : s'.old.getSub (subKey fname args' kwargs') =
      some (Op.subbuild fname args kwargs
        (Impl.run body none (Impl.subStart (Impl.subClaim s (subKey fname args kwargs)) (⟨fname, none, args, kwargs⟩ : Inv))).2.2 j false false)) :
    lookupSub (Impl.subClaim s' (subKey fname args' kwargs')) fname args' kwargs' =
      some (Op.subbuild fname args' kwargs'
        (Impl.run body none (Impl.subStart (Impl.subClaim s (subKey fname args kwargs)) (⟨fname, none, args, kwargs⟩ : Inv))).2.2 j false false,
        Impl.subClaim s' (subKey fname args' kwargs')) := by
  obtain ⟨_, hrep⟩ := leaf_run_replays hleaf none (Impl.subStart (Impl.subClaim s (subKey fname args kwargs)) (⟨fname, none, args, kwargs⟩ : Inv))
  have hrep' := hrep (Impl.subClaim s' (subKey fname args' kwargs')) hview hds
  unfold lookupSub
  have h1 : (Impl.subClaim s' (subKey fname args' kwargs')).old = s'.old := rfl
  have h2 : versionOk (Impl.subClaim s' (subKey fname args' kwargs')) fname = true := hver
  rw [h1, hold]
  simp only [h2, if_true, hrep']


/-! ### the hypotheses of `C05_leaf_file_reused_partial` are satisfiable: a function that asks one question and
    writes its target; a later state whose cache holds its record and whose shelf holds the file it wrote -/

def c5Body : Prog := .query (.isFile ["i"]) (fun _ => .write "o" none (.ret .null))
def c5S : KSt := { sp := { fs := [(["i"], .file "in" 3)], cacheFile := ["c"], dirSize := 4096, clock := 7 }, old := { buildName := "n" } }
theorem c5_leaf : Leaf c5Body := .query _ _ (fun _ => .write _ _ _ (.ret _))

def c5sp1 : SpecSt := setupState c5S.sp ["x"] []
def c5out := Impl.run c5Body (some ["x"]) (missStart (afterSetup c5S c5sp1 ["x"] []) ["x"] ⟨"f", some ["x"], .null, .null⟩)
def c5op : Op := Op.buildFile ["x"] .hash "f" .null .null c5out.2.2 .null (.str "sha:o") false false "o"
def c5S' : KSt := { sp := { fs := [(["i"], .file "in" 3)], cacheFile := ["c"], dirSize := 4096, clock := 20 },
                    old := { buildName := "n", roots := [c5op] }, shelf := [(["x"], .file "o" 7)] }
def c5sp1' : SpecSt := setupState c5S'.sp ["x"] []

theorem c5_setup : bfSetup c5S.sp ["x"] = .ok (c5sp1, []) := by
  have h : dirsToMake (visible c5S.sp) c5S.sp.cacheFile c5S.sp.inProg [] = .ok [] := by rw [dirsToMake]; simp
  simp [bfSetup, c5S, c5sp1, FS.isDir, FS.get] at h ⊢
  rw [h]; simp

example : ∃ r, lookupFile (afterSetup c5S' c5sp1' ["x"] []) ["x"] .hash "f" .null .null [] = some r := by
  refine C05_leaf_file_reused_partial c5S ["x"] .hash "f" .null .null c5Body c5_leaf c5sp1 [] c5_setup .null ?_
    c5S' c5sp1' [] .null .null (by simp) ?_ ?_ ?_ (by simp [isEqual]) (by simp [isEqual]) ?_ ?_
  · simp [Impl.run, c5Body, bfFinish, pendingFind, missStart, afterSetup, liftSp, sanitize]
  · simp [c5sp1', c5sp1, c5S', c5S, setupState, visible, mkdirs, FS.isFile, FS.get, FS.erase]
  · rfl
  · simp [versionOk, afterSetup, c5S', verOf, isEqual]
  · simp [afterSetup, c5S', CacheRec.getFile, registeredL, registered, c5op, c5out, Op.isFileAt, Impl.run, c5Body, bfFinish,
      pendingFind, missStart, liftSp, sanitize, withSp, cmpBuilt, View.cmpResult, FS.get, FS.set, FS.erase, c5sp1, c5S, setupState, mkdirs, FS.isFile]
  · simp [afterSetup, c5S', Impl.run, c5Body, bfFinish, clearWay, properAncestor,
      pendingFind, missStart, liftSp, sanitize, withSp, FS.get, FS.set, FS.erase, c5sp1, c5S, setupState, mkdirs, FS.isFile]
end FB

/-
  What `started_building_file` does to the reservation bookkeeping when no build has failed (`_error_created_dirs`
  empty): reservations stay closed under `dirname`, and the call registers exactly the directories of its
  `created_dirs` that lie above the file — also those another thread reserved first (second loop, D7 repair).
-/
import FB.Props.BuildDirsGeneral
namespace FB
namespace BuildDirs

/-- reservations are closed under `dirname` -/
def CountsClosed (b : BD) : Prop := ∀ d, hasCount b d = true → d ≠ [] → hasCount b d.dropLast = true

/-- … except that the children of `par` may still wait for `par` -/
def CClosedBut (b : BD) (par : Path) : Prop :=
  ∀ d, hasCount b d = true → d ≠ [] → hasCount b d.dropLast = true ∨ d.dropLast = par

theorem CClosedBut.closed {b : BD} {par : Path} (h : CClosedBut b par) (hp : hasCount b par = true) : CountsClosed b :=
  fun d hd hne => (h d hd hne).elim id (fun e => e ▸ hp)

theorem CClosedBut.step {b b2 : BD} {parent : Path} (h : CClosedBut b parent)
    (h2 : ∀ e, hasCount b2 e = (decide (e = parent) || hasCount b e)) : CClosedBut b2 parent.dropLast := by
  intro d hd hne
  by_cases hdp : d = parent
  · exact Or.inr (by rw [hdp])
  · rw [h2, decide_eq_false hdp, Bool.false_or] at hd
    left
    rw [h2]
    rcases h d hd hne with h' | h'
    · rw [h', Bool.or_true]
    · rw [decide_eq_true h', Bool.true_or]

theorem discard_nil (p : Path) : discard [] p = [] := rfl

theorem startedLoop_closed (cds : List Path) (b : BD) (parent : Path) (locked : List Path) :
    (CClosedBut b parent → CountsClosed (startedLoop b cds parent locked).1) ∧
      hasCount (startedLoop b cds parent locked).1 parent = true ∧
      ∀ d, hasCount b d = true → hasCount (startedLoop b cds parent locked).1 d = true := by
  have hself : ∀ b parent, hasCount (visit b cds parent) parent = true := fun b parent => by
    rw [hasCount_visit, decide_eq_true rfl, Bool.true_or]
  have hmono : ∀ b parent d, hasCount b d = true → hasCount (visit b cds parent) d = true := fun b parent d hd => by
    rw [hasCount_visit, hd, Bool.or_true]
  refine startedLoop_rel cds (fun b parent b' => (CClosedBut b parent → CountsClosed b') ∧ hasCount b' parent = true ∧
      ∀ d, hasCount b d = true → hasCount b' d = true) ?_ ?_ ?_ b parent locked
  · intro b parent hn
    have hp := hasCount_of_getCount_pos b parent hn
    have heq : ∀ e, hasCount (bump b parent) e = hasCount b e := by
      intro e
      rw [hasCount_bump]
      by_cases he : e = parent
      · rw [he, hp, Bool.or_true]
      · rw [decide_eq_false he, Bool.false_or]
    exact ⟨fun hc d hd hne => by rw [heq] at hd ⊢; exact hc.closed hp d hd hne, by rw [heq]; exact hp,
      fun d hd => by rw [heq]; exact hd⟩
  · intro b _
    exact ⟨fun hc => (hc.step (hasCount_visit cds b [])).closed (hself b []), hself b [], hmono b []⟩
  · intro b parent b' _ _ ih
    exact ⟨fun hc => ih.1 (hc.step (hasCount_visit cds b parent)), ih.2.2 _ (hself b parent),
      fun d hd => ih.2.2 d (hmono b parent d hd)⟩

structure SLPost (cds : List Path) (b b' : BD) (parent : Path) : Prop where
  err : b'.errorCreated = []
  sub : ∀ d ∈ b.created, d ∈ b'.created
  src : ∀ d ∈ b'.created, d ∈ b.created ∨ d ∈ cds
  closed : CountsClosed b'
  has : hasCount b' parent = true
  mono : ∀ d, hasCount b d = true → hasCount b' d = true

structure RUPost (cds : List Path) (b b' : BD) (parent : Path) : Prop where
  err : b'.errorCreated = []
  counts : b'.counts = b.counts
  sub : ∀ d ∈ b.created, d ∈ b'.created
  src : ∀ d ∈ b'.created, d ∈ b.created ∨ d ∈ cds
  reg : ∀ d, d <+: parent → d ∈ cds → hasCount b d = true → d ∈ b'.created

theorem hasCount_prefixes (b : BD) (hc : CountsClosed b) (t : Path) (ht : hasCount b t = true) :
    ∀ d, d <+: t → hasCount b d = true := by
  induction t using dropLast_induction with
  | _ t ih =>
    intro d hd
    by_cases hdt : d = t
    · rw [hdt]; exact ht
    · have htne : t ≠ [] := fun e => hdt (by rw [e] at hd; rw [e]; exact List.prefix_nil.mp hd)
      exact ih htne (hc t ht htne) d (prefix_dropLast_of_ne hd hdt)

/-- what `started_building_file(p, cds)` does to the bookkeeping when no build has failed: it registers exactly the
    directories in `cds` that lie above `p` -/
structure StartedPost (cds : List Path) (b b' : BD) (p : Path) : Prop where
  err : b'.errorCreated = []
  closed : CountsClosed b'
  sub : ∀ d ∈ b.created, d ∈ b'.created
  src : ∀ d ∈ b'.created, d ∈ b.created ∨ d ∈ cds
  reg : ∀ d ∈ cds, d <+: p.dropLast → p ≠ [] → d ∈ b'.created

theorem started_closed (b : BD) (p : Path) (cds : List Path) (hc : CountsClosed b) :
    CountsClosed (started b p cds).1 ∧ (p ≠ [] → ∀ d, d <+: p.dropLast → hasCount (started b p cds).1 d = true) := by
  unfold started
  cases p with
  | nil => exact ⟨hc, fun h => absurd rfl h⟩
  | cons a r =>
    have h1 := startedLoop_closed cds { b with removedFiles := discard b.removedFiles (a :: r) } (a :: r).dropLast []
    have hcl := h1.1 (fun d hd hne => Or.inl (hc d hd hne))
    simp only
    split
    · exact ⟨hcl, fun _ => hasCount_prefixes _ hcl _ h1.2.1⟩
    · have hcnt := hasCount_congr (registerUp_counts cds
        (startedLoop { b with removedFiles := discard b.removedFiles (a :: r) } cds (a :: r).dropLast []).1 (a :: r).dropLast
        (startedLoop { b with removedFiles := discard b.removedFiles (a :: r) } cds (a :: r).dropLast []).2)
      exact ⟨fun d hd hne => by rw [hcnt] at hd ⊢; exact hcl d hd hne,
        fun _ d hd => by rw [hcnt]; exact hasCount_prefixes _ hcl _ h1.2.1 d hd⟩

theorem started_post (b : BD) (p : Path) (cds : List Path) (he : b.errorCreated = []) (hc : CountsClosed b) :
    StartedPost cds b (started b p cds).1 p := by
  have hcl := started_closed b p cds hc
  by_cases hp : p = []
  · subst hp
    exact ⟨he, hcl.1, fun d hd => hd, fun d hd => Or.inl hd, fun _ _ _ h => absurd rfl h⟩
  · have g := started_general b p cds hp (hcl.2 hp)
    exact ⟨List.eq_nil_iff_forall_not_mem.mpr (fun d hd => by have := g.errSub d hd; rw [he] at this; cases this),
      hcl.1, g.sub,
      fun d hd => (g.src d hd).imp id (fun h => h.1.elim id (fun h' => by rw [he] at h'; cases h')),
      fun d hd hpre _ => g.reg d hpre (Or.inl hd)⟩

end BuildDirs
end FB

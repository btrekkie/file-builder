/-
  C02/C14 — `_make_room` keeps the bookkeeping of the build `Undoable` (`FB.Rollback`), also under an injected fault:
  wherever the `OSError` strikes, a rollback that follows restores the regular files of the pre-build tree
  (`makeRoomF_undoable` with `rollBack_restores_files`; `makeRoom_undoable` is the fault-free case).
-/
import FB.Props.C02Steps
import FB.Props.C03MakeRoom
namespace FB
namespace Rollback
open FS Spec Backups BuildDirs
open MakeRoomF (C)

/-- the bookkeeping seen from inside `_make_room` -/
def rbOfR (r : RB) (st : MakeRoom.St) : RB := { r with bk := st.bk }

/-- what holds between the steps of `_make_room`: the bookkeeping is `Undoable`, and what it has logged below `top` is
    gone from the tree -/
def RoomOK (P0 : FS) (r : RB) (top : Path) (st : MakeRoom.St) : Prop :=
  Undoable P0 st.fs (rbOfR r st) ∧ ∀ q, top <+: q → q ∈ st.bk.saved.map (·.1) → st.fs.get q = none

theorem roomOK_backup (P0 : FS) (r : RB) (top : Path) (hclean : ∀ q, top <+: q → q ∉ r.newOutputs)
    (st : MakeRoom.St) (sub : Path) (htop : top <+: sub) (hnd : st.fs.isDir sub = false) (h : RoomOK P0 r top st) :
    RoomOK P0 r top { fs := (Backups.backUpAndRemove st.fs st.bk sub).1, bk := (Backups.backUpAndRemove st.fs st.bk sub).2.1 } := by
  rcases Backups.backUp_nondir st.fs st.bk sub hnd with ⟨_, hb⟩ | ⟨c, m, hg, hb⟩
  · rw [hb]; exact h
  · rw [hb]
    have hne : sub ≠ [] := fun e => by rw [e, get_nil] at hg; cases hg
    have hns : sub ∉ st.bk.saved.map (·.1) := fun hm => by rw [h.2 sub htop hm] at hg; cases hg
    refine ⟨h.1.moveAside sub c m hg (hclean sub htop) hns, fun q hq hm => ?_⟩
    show (st.fs.erase sub).get q = none
    by_cases hqs : q = sub
    · rw [hqs]; exact get_erase_self _ _ hne
    · rw [get_erase_ne _ _ _ hqs]
      refine h.2 q hq ?_
      rw [List.map_append, List.mem_append] at hm
      exact hm.resolve_right fun hm => hqs (List.mem_singleton.mp hm)

theorem roomOK_rmdir (P0 : FS) (r : RB) (top : Path) (st : MakeRoom.St) (d : Path) (fs' : FS)
    (hr : st.fs.rmdir d = .ok fs') (h : RoomOK P0 r top st) : RoomOK P0 r top { st with fs := fs' } := by
  cases rmdir_eq_erase hr
  refine ⟨h.1.eraseDir d (rmdir_was_empty_dir st.fs _ d hr).1, fun q hq hm => ?_⟩
  show (st.fs.erase d).get q = none
  by_cases hqd : q = d
  · rw [hqd, ← rmdir_eq_erase hr, get_rmdir st.fs _ d d hr, if_pos rfl]
  · rw [get_erase_ne _ _ _ hqd]; exact h.2 q hq hm

/-- **`_make_room` keeps the bookkeeping `Undoable` wherever an injected `OSError` strikes** -/
theorem makeRoomF_undoable (vd vf : Path → Bool) (fa : Option Nat) (P0 : FS) (r : RB) (top : Path)
    (hclean : ∀ q, top <+: q → q ∉ r.newOutputs) : ∀ (fuel : Nat) (c c' : C) (d : Path), top <+: d →
      RoomOK P0 r top c.st →
      (MakeRoomF.makeRoom vd vf fa fuel c d = .ok c' ∨ MakeRoomF.makeRoom vd vf fa fuel c d = .error c') → RoomOK P0 r top c'.st :=
  fun fuel c c' d htop h hr => MakeRoomF.makeRoom_inv vd vf fa d (RoomOK P0 r top)
    (fun st sub hsub hnd _ hst => roomOK_backup P0 r top hclean st sub (htop.trans hsub) hnd hst)
    (fun st x fs' _ _ hrm hst => roomOK_rmdir P0 r top st x fs' hrm hst) fuel c c' h hr

/-- **`_make_room` keeps the bookkeeping `Undoable`**, whether it returns or gives up: provided nothing below the
    directory it clears is an output of this build -/
theorem makeRoom_undoable (vd vf : Path → Bool) (P0 : FS) (r : RB) (top : Path)
    (hclean : ∀ q, top <+: q → q ∉ r.newOutputs) : ∀ (fuel : Nat) (st st' : MakeRoom.St) (d : Path), top <+: d →
      RoomOK P0 r top st →
      (MakeRoom.makeRoom vd vf fuel st d = .ok st' ∨ MakeRoom.makeRoom vd vf fuel st d = .error st') → RoomOK P0 r top st' := by
  intro fuel st st' d htop h hr
  obtain ⟨c', rfl, hc⟩ := MakeRoom.outcome_none vd vf fuel st st' d hr
  exact makeRoomF_undoable vd vf none P0 r top hclean fuel { st := st } c' d htop h hc

/-- **C14 for `_make_room`, end to end**: the build's bookkeeping was `Undoable` when `_make_room` was entered; an
    `OSError` strikes at any of its mutating calls (or none does); whatever the outcome, the rollback that follows
    puts back exactly the regular files of the pre-build tree - bytes and times - and leaves no new directory (up to
    the recorded directories of the previous build, the latitude of C02) -/
theorem C14_makeRoom_fault_rollback (vd vf : Path → Bool) (fa : Option Nat) (P0 : FS) (r : RB) (top : Path)
    (hwf0 : TreeWF P0) (hclean : ∀ q, top <+: q → q ∉ r.newOutputs) (fuel : Nat) (c c' : C)
    (h : RoomOK P0 r top c.st)
    (hr : MakeRoomF.makeRoom vd vf fa fuel c top = .ok c' ∨ MakeRoomF.makeRoom vd vf fa fuel c top = .error c') :
    (∀ p cc m, P0.get p = some (.file cc m) → (rollBack c'.st.fs (rbOfR r c'.st)).get p = some (.file cc m)) ∧
    (∀ p cc m, (rollBack c'.st.fs (rbOfR r c'.st)).get p = some (.file cc m) → P0.get p = some (.file cc m)) ∧
    (∀ d, (rollBack c'.st.fs (rbOfR r c'.st)).isDir d = true → P0.isDir d = true ∨ d ∈ r.oldCreatedDirs) :=
  rollBack_restores_files P0 c'.st.fs (rbOfR r c'.st) hwf0
    (makeRoomF_undoable vd vf fa P0 r top hclean fuel c c' top (List.prefix_refl _) h hr).1

/-- the premises are met (non-vacuity): `_make_room` entered as the first disk-changing step of a build, on ANY
    well-formed tree, with the fault anywhere - the rollback restores every regular file -/
theorem C14_makeRoom_fault_rollback_first_step (vd vf : Path → Bool) (fa : Option Nat) (P0 : FS) (hwf0 : TreeWF P0)
    (oldOutputs oldCreatedDirs : List Path) (top : Path) (fuel : Nat) (c' : C)
    (hr : MakeRoomF.makeRoom vd vf fa fuel { st := { fs := P0, bk := {} } } top = .ok c' ∨
          MakeRoomF.makeRoom vd vf fa fuel { st := { fs := P0, bk := {} } } top = .error c') :
    ∀ p cc m, P0.get p = some (.file cc m) →
      (rollBack c'.st.fs (rbOfR { oldOutputs := oldOutputs, oldCreatedDirs := oldCreatedDirs } c'.st)).get p = some (.file cc m) :=
  (C14_makeRoom_fault_rollback vd vf fa P0 { oldOutputs := oldOutputs, oldCreatedDirs := oldCreatedDirs } top hwf0
    (fun _ _ hq => nomatch hq) fuel { st := { fs := P0, bk := {} } } c'
    ⟨Undoable.start P0 oldOutputs oldCreatedDirs, fun _ _ hq => nomatch hq⟩ hr).1

end Rollback
end FB

/-
  C04, well-formedness: "the parent of anything that exists is a directory" (`TreeWF`) holds of the tree every
  query is answered from — the operations of a build keep it (`wf_*`), so it holds in every state of every run
  (`C04_view_wellformed`) — and the life cycle of a target in the view (hidden while its function runs, visible
  once it returned, its writes dropped if it failed).
-/
import FB.Props.C03
import FB.Props.C04PreClean
import FB.Lemmas.ReplayBasic
namespace FB
open FS Spec BuildDirs


theorem wf_erase_nondir (fs : FS) (p : Path) (hwf : TreeWF fs) (hp : fs.isDir p = false) : TreeWF (fs.erase p) := by
  intro q hq hg
  by_cases hqp : q = p
  · subst hqp; rw [get_erase_self _ _ hq] at hg; exact absurd rfl hg
  · rw [get_erase_ne _ _ _ hqp] at hg
    have hd := hwf q hq hg
    have hne : q.dropLast ≠ p := by intro e; rw [e, hp] at hd; cases hd
    unfold FS.isDir at hd ⊢
    rw [get_erase_ne _ _ _ hne]; exact hd

theorem wf_set_file (fs : FS) (p : Path) (b : String) (m : Nat) (hwf : TreeWF fs) (hpne : p ≠ [])
    (hpar : fs.isDir p.dropLast = true) (hp : fs.isDir p = false) : TreeWF (fs.set p (.file b m)) := by
  intro q hq hg
  have hparne : p.dropLast ≠ p := by
    intro e
    have := congrArg List.length e
    simp [List.length_dropLast] at this
    have : p.length ≠ 0 := by simpa using hpne
    omega
  by_cases hqp : q = p
  · subst hqp
    unfold FS.isDir at hpar ⊢
    rw [get_set_ne _ _ _ _ hparne]; exact hpar
  · rw [get_set_ne _ _ _ _ hqp] at hg
    have hd := hwf q hq hg
    have hne : q.dropLast ≠ p := by intro e; rw [e, hp] at hd; cases hd
    unfold FS.isDir at hd ⊢
    rw [get_set_ne _ _ _ _ hne]; exact hd

theorem wf_mkdirStep (fs : FS) (d : Path) (hwf : TreeWF fs) : TreeWF (mkdirStep fs d) := by
  unfold mkdirStep
  cases h : fs.mkdir d with
  | error e => exact hwf
  | ok fs' =>
    simp only
    have habs := mkdir_absent fs fs' d h
    have hpar : fs.isDir d.dropLast = true := by
      unfold FS.mkdir at h
      split at h
      · cases h
      · unfold FS.isDir FS.parent at *
        split at h <;> first | cases h | skip
        rename_i hh; rw [hh]
    intro q hq hg
    rw [get_mkdir fs fs' d q h] at hg
    unfold FS.isDir
    rw [get_mkdir fs fs' d q.dropLast h]
    by_cases hqd : q = d
    · subst hqd
      by_cases hpd : q.dropLast = q
      · simp [hpd]
      · simp only [hpd, if_false]; unfold FS.isDir at hpar; exact hpar
    · simp only [hqd, if_false] at hg
      have hd := hwf q hq hg
      by_cases hpd : q.dropLast = d
      · simp [hpd]
      · simp only [hpd, if_false]; unfold FS.isDir at hd; exact hd

theorem wf_mkdirs (ds : List Path) : ∀ (fs : FS), TreeWF fs → TreeWF (mkdirs fs ds) := by
  induction ds with
  | nil => intro fs h; exact h
  | cons d r ih => intro fs h; exact ih _ (wf_mkdirStep fs d h)

theorem wf_rmdirStep (fs : FS) (d : Path) (hwf : TreeWF fs) : TreeWF (rmdirStep fs d) := by
  unfold rmdirStep
  cases h : fs.rmdir d with
  | error e => exact hwf
  | ok fs' =>
    simp only
    obtain ⟨hdir, hempty⟩ := rmdir_was_empty_dir fs fs' d h
    intro q hq hg
    rw [get_rmdir fs fs' d q h] at hg
    by_cases hqd : q = d
    · simp [hqd] at hg
    · simp only [hqd, if_false] at hg
      have hd := hwf q hq hg
      unfold FS.isDir
      rw [get_rmdir fs fs' d q.dropLast h]
      by_cases hpd : q.dropLast = d
      · -- `q` would be a child of the empty directory `d`
        exfalso
        have hql : q = d ++ [q.getLast (by simpa using hq)] := by
          rw [← hpd]; exact (List.dropLast_append_getLast _).symm
        cases hgq : fs.get q with
        | none => exact hg hgq
        | some e =>
          have hm := mem_of_get fs q e hq hgq
          have : q.getLast (by simpa using hq) ∈ fs.childNames d := by
            rw [mem_childNames]; exact ⟨e, by rw [← hql]; exact hm⟩
          rw [hempty] at this; cases this
      · simp only [hpd, if_false]; unfold FS.isDir at hd; exact hd

theorem wf_rmEmpty (fs : FS) (ds : List Path) (hwf : TreeWF fs) : TreeWF (rmEmpty fs ds) := by
  rw [rmEmpty_eq]
  generalize ds.mergeSort (fun a b => a.length ≥ b.length) = l
  induction l generalizing fs with
  | nil => exact hwf
  | cons d r ih => exact ih _ (wf_rmdirStep fs d hwf)

/-- the invariant: the tree is well-formed, no target being built and not the cache file is a directory -/
structure GoodT (s : SpecSt) : Prop where
  wf : TreeWF s.fs
  prog : ∀ p ∈ s.inProg, s.fs.isDir p = false
  cf : s.fs.isDir s.cacheFile = false

theorem wf_erase_list (ps : List Path) : ∀ (fs : FS), TreeWF fs → (∀ p ∈ ps, fs.isDir p = false) →
    TreeWF (ps.foldl (fun fs p => fs.erase p) fs) ∧ ∀ q, fs.isDir q = false → (ps.foldl (fun fs p => fs.erase p) fs).isDir q = false := by
  induction ps with
  | nil => intro fs h _; exact ⟨h, fun _ hq => hq⟩
  | cons p r ih =>
    intro fs hwf hnd
    have hkeep : ∀ q, fs.isDir q = false → (fs.erase p).isDir q = false := by
      intro q hq
      by_cases hqp : q = p
      · subst hqp
        by_cases hr : q = []
        · subst hr; simp [FS.isDir, get_nil] at hq
        · simp [FS.isDir, get_erase_self _ _ hr]
      · unfold FS.isDir at hq ⊢; rw [get_erase_ne _ _ _ hqp]; exact hq
    obtain ⟨h1, h2⟩ := ih (fs.erase p) (wf_erase_nondir fs p hwf (hnd p (by simp)))
      (fun q hq => hkeep q (hnd q (by simp [hq])))
    exact ⟨h1, fun q hq => h2 q (hkeep q hq)⟩

/-- **the tree every query is answered from is well-formed** -/
theorem wf_visible (s : SpecSt) (h : GoodT s) : TreeWF (visible s) := by
  unfold visible
  obtain ⟨h1, h2⟩ := wf_erase_list s.inProg s.fs h.wf h.prog
  exact wf_erase_nondir _ _ h1 (h2 _ h.cf)

namespace Spec

/-- `P` holds in every state in which the run answers a query or starts / resumes user code -/
def everyQ (P : SpecSt → Prop) : Prog → Option Path → SpecSt → Prop
  | .ret _, _, s => P s
  | .raise _, _, s => P s
  | .query q k, t, s => P s ∧ everyQ P (k (View.answer s.dirSize (visible s) q)) t s
  | .write b mt k, t, s =>
    match t with
    | some p => everyQ P k t { s with pending := (p, b, mt.getD s.clock) :: s.pending, clock := s.clock + 1 }
    | none => everyQ P k t s
  | .buildFile path _ fname args kwargs body k, t, s =>
    match bfSetup s path with
    | .error e => everyQ P (k (.error e)) t (setupFailState s path e)
    | .ok (s1, made) =>
      let s1 := { s1 with invLog := ⟨fname, some path, args, kwargs⟩ :: s1.invLog }
      everyQ P body (some path) s1 ∧
      everyQ P (k (bfFinish (run body (some path) s1).2.1 path made (run body (some path) s1).1).1) t
        (bfFinish (run body (some path) s1).2.1 path made (run body (some path) s1).1).2
  | .subbuild fname args kwargs body k, t, s =>
    let key := subKey fname args kwargs
    if s.claimedSubs.any (heq key) then everyQ P (k (.error (.runtime .dupSub))) t s
    else if s.failSubs.any (heq key) then everyQ P (k (.error (.os .other))) t (consumeSubFault s key)
    else
      let s1 := { s with claimedSubs := key :: s.claimedSubs, invLog := ⟨fname, none, args, kwargs⟩ :: s.invLog }
      everyQ P body none s1 ∧ everyQ P (k (run body none s1).1) t (run body none s1).2.1

end Spec

theorem GoodT.congr {a b : SpecSt} (h : GoodT a) (h1 : b.fs = a.fs) (h2 : b.inProg = a.inProg) (h3 : b.cacheFile = a.cacheFile) : GoodT b :=
  ⟨by rw [h1]; exact h.wf, by rw [h1, h2]; exact h.prog, by rw [h1, h3]; exact h.cf⟩

theorem bfSetup_good (s s1 : SpecSt) (path : Path) (made : List Path) (hg : GoodT s) (h : bfSetup s path = .ok (s1, made)) :
    GoodT s1 ∧ (∀ q, s.fs.isDir q = true → s1.fs.isDir q = true) ∧ s1.fs.isDir path.dropLast = true ∧
    (∀ d ∈ made, s.fs.get d = none) ∧ (∀ d ∈ made, s1.fs.isDir d = true) ∧ s1.inProg = path :: s.inProg ∧ s1.cacheFile = s.cacheFile ∧
    path ≠ [] := by
  obtain ⟨hsp1, hnc, hncf, hnd, hdm, _⟩ := bfSetup_ok_fields s s1 path made h
  have hpne : path ≠ [] := by intro e; subst e; simp [FS.isDir, get_nil] at hnd
  have habsm := dirsToMake_absent s _ path.dropLast made rfl hdm
  obtain ⟨g1, g2, g3⟩ := mkdirs_dirsToMake (visible s) s.cacheFile s.inProg _ path.dropLast made s.fs rfl hdm
    (fun a ha => visible_isDir s a ha) habsm
  have hpath_made : path ∉ made := by
    intro hm
    have := Backups.dirsToMake_prefix _ _ _ _ _ _ rfl hdm path hm
    have hl := this.length_le
    simp [List.length_dropLast] at hl
    have : path.length ≠ 0 := by simpa using hpne
    omega
  have hwf1 : TreeWF (mkdirs s.fs made) := wf_mkdirs made s.fs hg.wf
  -- what `mkdirs` leaves alone
  have hkeepnd : ∀ q, s.fs.isDir q = false → q ∉ made → (mkdirs s.fs made).isDir q = false := by
    intro q hq hm
    rcases Rollback.mkdirs_get_mem made s.fs q with h' | ⟨hmm, _, _⟩
    · unfold FS.isDir at hq ⊢; rw [h']; exact hq
    · exact absurd hmm hm
  have hpnd : (mkdirs s.fs made).isDir path = false := hkeepnd path hnd hpath_made
  have hfs1 : s1.fs = if (mkdirs s.fs made).isFile path then (mkdirs s.fs made).erase path else mkdirs s.fs made := by
    rw [hsp1]; rfl
  have herase_nd : ∀ q, (mkdirs s.fs made).isDir q = false → s1.fs.isDir q = false := by
    intro q hq
    rw [hfs1]
    split
    · by_cases hqp : q = path
      · subst hqp; simp [FS.isDir, get_erase_self _ _ hpne]
      · unfold FS.isDir at hq ⊢; rw [get_erase_ne _ _ _ hqp]; exact hq
    · exact hq
  have herase_d : ∀ q, (mkdirs s.fs made).isDir q = true → s1.fs.isDir q = true := by
    intro q hq
    rw [hfs1]
    split
    · have hqp : q ≠ path := by intro e; subst e; rw [hpnd] at hq; cases hq
      unfold FS.isDir at hq ⊢; rw [get_erase_ne _ _ _ hqp]; exact hq
    · exact hq
  refine ⟨⟨?_, ?_, ?_⟩, fun q hq => herase_d q (g3 q hq), herase_d _ g1, habsm, fun d hd => herase_d d (g2 d hd), by rw [hsp1]; rfl, by rw [hsp1]; rfl, hpne⟩
  · rw [hfs1]
    split
    · exact wf_erase_nondir _ _ hwf1 hpnd
    · exact hwf1
  · intro p hp
    have hp' : p ∈ path :: s.inProg := by rw [hsp1] at hp; exact hp
    rcases List.mem_cons.mp hp' with rfl | hp''
    · exact herase_nd _ hpnd
    · exact herase_nd p (hkeepnd p (hg.prog p hp'') (fun hm => dirsToMake_not_blocked _ _ _ _ _ hdm p hm hp''))
  · have : s1.cacheFile = s.cacheFile := by rw [hsp1]; rfl
    rw [this]
    exact herase_nd _ (hkeepnd _ hg.cf (fun hm => dirsToMake_not_cf _ _ _ _ _ _ rfl hdm hm))

theorem bfFinish_good (s s2 : SpecSt) (path : Path) (made : List Path) (r : CallRes) (hg2 : GoodT s2) (hpne : path ≠ [])
    (hin2 : s2.inProg = path :: s.inProg) (hpar2 : s2.fs.isDir path.dropLast = true)
    (hdirs : ∀ q, s.fs.isDir q = true → s2.fs.isDir q = true) (habsm : ∀ d ∈ made, s.fs.get d = none) :
    GoodT (bfFinish s2 path made r).2 ∧
    (∀ q, s.fs.isDir q = true → (bfFinish s2 path made r).2.fs.isDir q = true) ∧
    (bfFinish s2 path made r).2.inProg = s.inProg ∧ (bfFinish s2 path made r).2.cacheFile = s2.cacheFile := by
  have hpnd2 : s2.fs.isDir path = false := hg2.prog path (by rw [hin2]; exact List.mem_cons_self ..)
  have hip : (bfFinish s2 path made r).2.inProg = s.inProg := by
    rw [bfFinish_inProg, hin2]; exact List.erase_cons_head ..
  have hcf := bfFinish_cacheFile s2 path made r
  have hprog : ∀ p ∈ (bfFinish s2 path made r).2.inProg, s2.fs.isDir p = false :=
    fun p hp => hg2.prog p (by rw [hip] at hp; rw [hin2]; exact List.mem_cons_of_mem _ hp)
  -- what is left to show speaks of the new tree only: which directories it keeps, and which paths stay non-directories
  suffices h : TreeWF (bfFinish s2 path made r).2.fs ∧
      (∀ q, s2.fs.isDir q = false → (bfFinish s2 path made r).2.fs.isDir q = false) ∧
      (∀ q, s.fs.isDir q = true → (bfFinish s2 path made r).2.fs.isDir q = true) from
    ⟨⟨h.1, fun p hp => h.2.1 p (hprog p hp), by rw [hcf]; exact h.2.1 _ hg2.cf⟩, h.2.2, hip, hcf⟩
  rcases bfFinish_fs s2 path made r with ⟨c, m, hfs⟩ | hfs <;> rw [hfs]
  · refine ⟨wf_set_file _ _ _ _ hg2.wf hpne hpar2 hpnd2, fun q hq => ?_, fun q hq => ?_⟩
    · by_cases hqp : q = path
      · subst hqp; simp [FS.isDir, get_set_self _ _ _ hpne]
      · unfold FS.isDir at hq ⊢; rw [get_set_ne _ _ _ _ hqp]; exact hq
    · have hq2 := hdirs q hq
      have hne : q ≠ path := by intro e; subst e; rw [hpnd2] at hq2; cases hq2
      unfold FS.isDir at hq2 ⊢; rw [get_set_ne _ _ _ _ hne]; exact hq2
  · refine ⟨wf_rmEmpty _ _ hg2.wf, fun q hq => ?_, fun q hq => ?_⟩
    · rcases rmEmpty_get made s2.fs q with hgq | ⟨_, _, hgq⟩
      · unfold FS.isDir at hq ⊢; rw [hgq]; exact hq
      · simp [FS.isDir, hgq]
    · have hq2 := hdirs q hq
      rcases rmEmpty_get made s2.fs q with hgq | ⟨hm, _, _⟩
      · unfold FS.isDir at hq2 ⊢; rw [hgq]; exact hq2
      · simp [FS.isDir, habsm q hm] at hq

/-- **C04, well-formedness of the view**: from a state whose tree is well-formed, every query of every run — of any
    program, whatever fails in it, with or without injected faults — is answered from a well-formed tree: the parent of
    anything that exists is a directory (so `C04_listDir_iff`, `C04_exists_iff` and the other consistency laws of the
    view apply to it).  Also: directories that exist when a run starts exist when it ends. -/
theorem C04_view_wellformed (prog : Prog) : ∀ (t : Option Path) (s : SpecSt), GoodT s → (∀ p, t = some p → p ∈ s.inProg) →
    Spec.everyQ (fun s => TreeWF (visible s)) prog t s ∧ GoodT (Spec.run prog t s).2.1 ∧
    (∀ q, s.fs.isDir q = true → (Spec.run prog t s).2.1.fs.isDir q = true) ∧
    (Spec.run prog t s).2.1.inProg = s.inProg ∧ (Spec.run prog t s).2.1.cacheFile = s.cacheFile := by
  induction prog with
  | ret v =>
    intro t s hg _
    simp only [Spec.everyQ, Spec.run]
    cases sanitize v <;> exact ⟨wf_visible s hg, hg, fun _ h => h, rfl, rfl⟩
  | raise e => intro t s hg _; exact ⟨wf_visible s hg, hg, fun _ h => h, rfl, rfl⟩
  | query q k ih =>
    intro t s hg ht
    simp only [Spec.everyQ, Spec.run]
    obtain ⟨h1, h2, h3, h4, h5⟩ := ih _ t s hg ht
    exact ⟨⟨wf_visible s hg, h1⟩, h2, h3, h4, h5⟩
  | write b mt k ih =>
    intro t s hg ht
    simp only [Spec.everyQ, Spec.run]
    cases t with
    | none => exact ih none s hg ht
    | some p =>
      simp only
      exact ih (some p) { s with pending := (p, b, mt.getD s.clock) :: s.pending, clock := s.clock + 1 } (hg.congr rfl rfl rfl) ht
  | buildFile path cmp fname args kwargs body k ihb ihk =>
    intro t s hg ht
    cases hsetup : bfSetup s path with
    | error e =>
      rw [run_bf_refused hsetup]
      simp only [Spec.everyQ, hsetup]
      exact ihk (.error e) t (setupFailState s path e) (hg.congr rfl rfl rfl) ht
    | ok x =>
      obtain ⟨s1, made⟩ := x
      rw [run_bf_ok hsetup]
      simp only [Spec.everyQ, hsetup]
      obtain ⟨hg1, hk1, hpar1, habsm, hmade1, hin1, hcf1, hpne⟩ := bfSetup_good s s1 path made hg hsetup
      obtain ⟨b1, b2, b3, b4, b5⟩ := ihb (some path) { s1 with invLog := ⟨fname, some path, args, kwargs⟩ :: s1.invLog }
        (hg1.congr rfl rfl rfl) (fun p hp => by cases hp; show path ∈ s1.inProg; rw [hin1]; exact List.mem_cons_self ..)
      generalize Spec.run body (some path) { s1 with invLog := ⟨fname, some path, args, kwargs⟩ :: s1.invLog } = out at b2 b3 b4 b5 ⊢
      obtain ⟨hg3, hk3, hin3, hcf3⟩ := bfFinish_good s out.2.1 path made out.1 b2 hpne (b4.trans hin1) (b3 _ hpar1)
        (fun q hq => b3 q (hk1 q hq)) habsm
      obtain ⟨k1, k2, k3, k4, k5⟩ := ihk (bfFinish out.2.1 path made out.1).1 t (bfFinish out.2.1 path made out.1).2 hg3
        (fun p hp => by rw [hin3]; exact ht p hp)
      exact ⟨⟨b1, k1⟩, k2, fun q hq => k3 q (hk3 q hq), k4.trans hin3, k5.trans (hcf3.trans (b5.trans hcf1))⟩
  | subbuild fname args kwargs body k ihb ihk =>
    intro t s hg ht
    cases hcl : s.claimedSubs.any (heq (subKey fname args kwargs)) with
    | true =>
      rw [run_sb_dup hcl]
      simp only [Spec.everyQ, hcl, if_true]
      exact ihk (.error (.runtime .dupSub)) t s hg ht
    | false =>
      cases hfl : s.failSubs.any (heq (subKey fname args kwargs)) with
      | true =>
        rw [run_sb_fault hcl hfl]
        simp only [Spec.everyQ, hcl, hfl, Bool.false_eq_true, if_false, if_true]
        exact ihk (.error (.os .other)) t (consumeSubFault s (subKey fname args kwargs)) (hg.congr rfl rfl rfl) ht
      | false =>
        rw [run_sb_run hcl hfl]
        simp only [Spec.everyQ, hcl, hfl, Bool.false_eq_true, if_false]
        have e : ({ s with claimedSubs := subKey fname args kwargs :: s.claimedSubs, invLog := ⟨fname, none, args, kwargs⟩ :: s.invLog } : SpecSt) =
            subStart s fname args kwargs := rfl
        rw [e]
        obtain ⟨b1, b2, b3, b4, b5⟩ := ihb none (subStart s fname args kwargs) (hg.congr rfl rfl rfl) (fun p hp => by cases hp)
        generalize Spec.run body none (subStart s fname args kwargs) = out at b2 b3 b4 b5 ⊢
        obtain ⟨k1, k2, k3, k4, k5⟩ := ihk out.1 t out.2.1 b2 (fun p hp => by rw [b4]; exact ht p hp)
        exact ⟨⟨b1, k1⟩, k2, fun q hq => k3 q (b3 q hq), k4.trans b4, k5.trans b5⟩

theorem wf_eraseFiles (ps : List Path) : ∀ (fs : FS), TreeWF fs → TreeWF (ps.foldl (fun fs p => if fs.isFile p then fs.erase p else fs) fs) := by
  induction ps with
  | nil => intro fs h; exact h
  | cons p r ih =>
    intro fs h
    simp only [List.foldl]
    apply ih
    split
    · rename_i hf
      exact wf_erase_nondir _ _ h (not_isDir_of_isFile hf)
    · exact h

theorem wf_preClean (fs : FS) (cf : Path) (r : Rec) (hwf : TreeWF fs) : TreeWF (preClean fs cf r) := by
  rw [BuildDirs.preClean_eq]
  apply wf_rmEmpty
  unfold BuildDirs.erased
  simp only
  have h1 := wf_eraseFiles r.outputs fs hwf
  split
  · rename_i hf
    exact wf_erase_nondir _ _ h1 (not_isDir_of_isFile hf)
  · exact h1

/-- **C04 for a whole build**: when the tree a build starts on is well-formed and the cache path is not a directory
    (otherwise `build` refuses), every query the root function and everything below it makes — whatever fails, whatever
    faults are injected — is answered from a well-formed tree -/
theorem C04_build_view_wellformed (w : World) (cf : Path) (old : Rec) (failFiles : List Path) (failSubs : List H) (cds : List Path)
    (root : Prog) (hwf : TreeWF w.fs) (hcf : w.fs.isDir cf = false)
    (hcds : dirsToMake (visible (buildStart w cf failFiles failSubs old [])) cf [] cf.dropLast = .ok cds) :
    Spec.everyQ (fun s => TreeWF (visible s)) root none (buildStart w cf failFiles failSubs old cds) := by
  have hpc : TreeWF (preClean w.fs cf old) := wf_preClean w.fs cf old hwf
  have hcfpc : (preClean w.fs cf old).isDir cf = false := by
    cases hd : (preClean w.fs cf old).isDir cf with
    | false => rfl
    | true =>
      -- `preClean` makes no directories
      exfalso
      have hg : (preClean w.fs cf old).get cf = some .dir := by
        unfold FS.isDir at hd; split at hd <;> simp_all
      rw [BuildDirs.preClean_eq] at hg
      rcases rmEmpty_get old.createdDirs (BuildDirs.erased w.fs cf old.outputs) cf with h | ⟨_, _, h⟩
      · rw [h, BuildDirs.erased_get] at hg
        split at hg
        · cases hg
        · simp [FS.isDir, hg] at hcf
      · rw [h] at hg; cases hg
  have hgood : GoodT (buildStart w cf failFiles failSubs old cds) := by
    refine ⟨wf_mkdirs cds _ hpc, (fun p hp => by cases hp), ?_⟩
    show (mkdirs (preClean w.fs cf old) cds).isDir cf = false
    rcases Rollback.mkdirs_get_mem cds (preClean w.fs cf old) cf with h | ⟨hm, _, _⟩
    · unfold FS.isDir at hcfpc ⊢; rw [h]; exact hcfpc
    · exact absurd hm (fun hm => dirsToMake_not_cf _ _ _ _ _ _ rfl hcds hm)
  exact (C04_view_wellformed root none _ hgood (fun p hp => by cases hp)).1

/-! ### the life cycle of an output in the view -/

/-- **invisible while its function runs**: once the set-up of `build_file path` is through, the target is not in the view -/
theorem C04_target_hidden_while_running (s s1 : SpecSt) (path : Path) (made : List Path) (hg : GoodT s)
    (h : bfSetup s path = .ok (s1, made)) : (visible s1).get path = none := by
  obtain ⟨_, _, _, _, _, hin1, _, hpne⟩ := bfSetup_good s s1 path made hg h
  rw [get_visible, if_pos ⟨.inl (by rw [hin1]; exact List.mem_cons_self ..), hpne⟩]

/-- **visible once it returns**: when the function has returned and has written the file, the view shows the file with
    what was written (unless an enclosing call of the same path is still running, which the claims exclude) -/
theorem C04_target_visible_after_return (s2 : SpecSt) (path : Path) (made : List Path) (rb : CallRes) (j : Json)
    (hr : (bfFinish s2 path made rb).1 = .ok j) (hpne : path ≠ []) (hcf : path ≠ s2.cacheFile)
    (hone : path ∉ s2.inProg.erase path) :
    ∃ c m, pendingFind s2.pending path = some (c, m) ∧ (visible (bfFinish s2 path made rb).2).get path = some (.file c m) := by
  obtain ⟨c, m, hp, _, hfin⟩ := bfFinish_fst_ok hr
  refine ⟨c, m, hp, ?_⟩
  rw [hfin, C04_visible_elsewhere (finOk s2 path made c m) path hone hcf]
  exact get_set_self _ _ _ hpne

/-- **after a failed call** the function's writes are dropped: at the target the tree holds what it held before them
    (nothing, if nothing was there), nothing is pending for it any more, and of the directories made for the call only
    those are recorded that are still there (the empty ones were removed again) -/
theorem C04_target_gone_after_failure (s2 : SpecSt) (path : Path) (made : List Path) (rb : CallRes) (e : Exc)
    (hr : (bfFinish s2 path made rb).1 = .error e) :
    (bfFinish s2 path made rb).2.fs.get path = (match s2.fs.get path with | some (.file b m) => some (.file b m) | some .dir => (rmEmpty s2.fs made).get path | none => none) ∧
    pendingFind (bfFinish s2 path made rb).2.pending path = none ∧
    ∀ d ∈ (bfFinish s2 path made rb).2.createdDirs, d ∈ s2.createdDirs ∨ (d ∈ made ∧ (bfFinish s2 path made rb).2.fs.isDir d = true) := by
  rw [bfFinish_fst_error hr]
  refine ⟨?_, ?_, ?_⟩
  · show (rmEmpty s2.fs made).get path = _
    cases hg : s2.fs.get path with
    | none => exact rmEmpty_none _ _ _ hg
    | some en => cases en with
      | file b m => exact rmEmpty_file _ _ _ b m hg
      | dir => rfl
  · show pendingFind (s2.pending.filter (fun x => x.1 ≠ path)) path = none
    unfold pendingFind
    have : (s2.pending.filter (fun x => x.1 ≠ path)).find? (fun x => x.1 = path) = none := by
      apply List.find?_eq_none.mpr
      intro x hx
      have := (List.mem_filter.mp hx).2
      simpa using this
    rw [this]
  · intro d hd
    have hd' : d ∈ (made.filter (rmEmpty s2.fs made).isDir) ++ s2.createdDirs := hd
    rcases List.mem_append.mp hd' with h | h
    · right
      obtain ⟨h1, h2⟩ := List.mem_filter.mp h
      exact ⟨h1, h2⟩
    · left; exact h

end FB

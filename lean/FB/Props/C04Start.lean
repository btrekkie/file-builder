/-
  C04, from the algorithm to a declarative statement, for the phase of a build before its first `build_file`:
  `SimpleOperationExecutor.is_file / is_dir / exists` (`FB.Overlay`) on top of the memoising `BuildDirs`
  (`FB.BuildDirs`) answer — whatever was asked before —

    is_file p  ⇔  p is a real regular file, not the cache file, not an output of the previous build
    is_dir  p  ⇔  p is a real directory and not (created by the previous build and `Gone`)

  i.e. "as if the previous build's outputs, the cache file and the directories that build had created and that are
  now empty were already gone".
-/
import FB.Overlay
import FB.Props.C04Overlay
import FB.Props.BuildDirsGone
namespace FB
namespace Overlay
open BuildDirs

/-- the executor at the start of a build: no overlay, nothing being built or finished yet; `oldFiles` is what
    `FileBuilder` hands to `BuildDirs`: the previous build's outputs and the cache file -/
structure AtStart (c : Ctx) (oldFiles : List Path) : Prop where
  cf : c.cf = none
  building : c.building = []
  finished : c.finished = []
  old : ∀ p, p ∈ oldFiles ↔ p ∈ c.oldCreated ∨ p = c.cacheFile

theorem AtStart.silent {c : Ctx} {oldFiles : List Path} (hs : AtStart c oldFiles) (p : Path) :
    ∀ cf, c.cf = some cf → CreatedFiles.hasFile cf p = false ∧ CreatedFiles.hasDir cf p = false :=
  fun cf h => by rw [hs.cf] at h; cases h

theorem start_isFile (c : Ctx) (oldDirs oldFiles : List Path) (hs : AtStart c oldFiles) (hwf : TreeWF c.fs)
    (b : BD) (hb : QReach c.fs oldDirs oldFiles b) (p : Path) :
    ((isFile c b p).1 = true ↔ c.fs.isFile p = true ∧ p ∉ oldFiles) ∧
    QReach c.fs oldDirs oldFiles (isFile c b p).2 := by
  unfold isFile
  rw [isFileNoRead_of_silent c p (hs.silent p)]
  simp only [hs.building, hs.finished, List.contains_nil, Bool.false_eq_true, if_false]
  by_cases h1 : p = c.cacheFile
  · simp only [h1, if_true]
    exact ⟨⟨(fun h => nomatch h), (fun h => absurd ((hs.old _).mpr (Or.inr rfl)) h.2)⟩, hb⟩
  · simp only [h1, if_false]
    by_cases h2 : c.oldCreated.contains p = true
    · simp only [h2, if_true]
      exact ⟨⟨(fun h => nomatch h), (fun h => absurd ((hs.old p).mpr (Or.inl (by simpa using h2))) h.2)⟩, hb⟩
    · simp only [h2, Bool.false_eq_true, if_false]
      have h2' : p ∉ oldFiles := by
        intro hm
        rcases (hs.old p).mp hm with h | h
        · exact h2 (by simpa using h)
        · exact h1 h
      by_cases h3 : c.fs.isFile p = true
      · simp only [h3, if_true]
        exact ⟨⟨(fun _ => ⟨trivial, h2'⟩), (fun _ => trivial)⟩,
          QReach.dirExists b p.dropLast hb (anchor_of_isFile c.fs oldDirs oldFiles hwf p h3 h2')⟩
      · simp only [h3, Bool.false_eq_true, if_false]
        exact ⟨⟨(fun h => nomatch h), (fun h => absurd h.1 (by simp))⟩, hb⟩

theorem start_isDir (c : Ctx) (oldDirs oldFiles : List Path) (hs : AtStart c oldFiles) (hwf : TreeWF c.fs)
    (hv : Valid oldDirs oldFiles) (b : BD) (hb : QReach c.fs oldDirs oldFiles b) (p : Path) (r : Bool) (b' : BD)
    (hrun : isDir c b p = some (r, b')) :
    (r = true ↔ c.fs.isDir p = true ∧ ¬ (p ∈ oldDirs ∧ Gone c.fs oldDirs oldFiles p)) ∧
    QReach c.fs oldDirs oldFiles b' := by
  rw [isDir_of_silent c b p (hs.silent p)] at hrun
  cases hr : isRemoved c.fs b p with
  | none => rw [hr] at hrun; cases hrun
  | some x =>
    obtain ⟨b1, rr⟩ := x
    have hspec := C04_isRemoved_iff_gone c.fs oldDirs oldFiles hwf hv hb p b1 rr hr
    have hb1 : QReach c.fs oldDirs oldFiles b1 := QReach.removed b p b1 rr hb hr
    rw [hr] at hrun
    cases rr with
    | true =>
      cases hrun
      exact ⟨⟨(fun h => nomatch h), (fun h => absurd (hspec.mp rfl) h.2)⟩, hb1⟩
    | false =>
      have hng : ¬ (p ∈ oldDirs ∧ Gone c.fs oldDirs oldFiles p) := fun h => by have := hspec.mpr h; cases this
      by_cases hd : c.fs.isDir p = true
      · simp only [hd, if_true] at hrun
        cases hrun
        exact ⟨⟨(fun _ => ⟨hd, hng⟩), (fun _ => rfl)⟩,
          QReach.dirExists b1 p hb1 (anchor_of_isDir c.fs oldDirs oldFiles hwf p hd hng)⟩
      · simp only [hd, Bool.false_eq_true, if_false] at hrun
        cases hrun
        exact ⟨⟨(fun h => nomatch h), (fun h => absurd h.1 hd)⟩, hb1⟩

/-- **C04 at the start of a build**: `exists p` iff `p` is a real regular file that is neither the cache file nor
    an old output, or a real directory that is not an old, gone one — in every state of the memo -/
theorem C04_start_exists (c : Ctx) (oldDirs oldFiles : List Path) (hs : AtStart c oldFiles) (hwf : TreeWF c.fs)
    (hv : Valid oldDirs oldFiles) (b : BD) (hb : QReach c.fs oldDirs oldFiles b) (p : Path) (r : Bool) (b' : BD)
    (hrun : exists_ c b p = some (r, b')) :
    (r = true ↔ (c.fs.isFile p = true ∧ p ∉ oldFiles) ∨
                (c.fs.isDir p = true ∧ ¬ (p ∈ oldDirs ∧ Gone c.fs oldDirs oldFiles p))) ∧
    QReach c.fs oldDirs oldFiles b' := by
  obtain ⟨hf, hbf⟩ := start_isFile c oldDirs oldFiles hs hwf b hb p
  rw [FB.Overlay.exists_eq] at hrun
  by_cases h1 : (isFile c b p).1 = true
  · simp only [h1, if_true] at hrun
    cases hrun
    exact ⟨⟨(fun _ => Or.inl (hf.mp h1)), (fun _ => rfl)⟩, hbf⟩
  · simp only [h1, Bool.false_eq_true, if_false] at hrun
    obtain ⟨hd, hbd⟩ := start_isDir c oldDirs oldFiles hs hwf hv _ hbf p r b' hrun
    refine ⟨⟨(fun hr => Or.inr (hd.mp hr)), ?_⟩, hbd⟩
    rintro (h | h)
    · exact absurd (hf.mpr h) h1
    · exact hd.mpr h


/-! non-vacuity: the tree of `BuildDirs.exFS` at the start of a build -/

def exCtx : Ctx := { fs := exFS, dirSize := 4096, cacheFile := ["cache"], oldCreated := exFiles }

/-- what `FileBuilder` passes to `BuildDirs` as old files: the outputs and the cache file -/
def exOld : List Path := exFiles ++ [["cache"]]

theorem exCtx_atStart : AtStart exCtx exOld :=
  ⟨rfl, rfl, rfl, fun p => by simp [exCtx, exFiles, exOld, or_assoc]⟩

theorem ex_valid' : Valid exDirs exOld := by
  intro f hf d hd
  simp only [exOld, exFiles, exDirs, List.mem_cons, List.mem_append, List.not_mem_nil, or_false] at hf hd
  rcases hf with (rfl | rfl) | rfl <;> rcases hd with rfl | rfl <;> decide

set_option maxRecDepth 4000 in
/-- the old directory `o` (holding only an old output) does not exist; `k` (holding a foreign file) does -/
example : (exists_ exCtx (init exDirs exOld) ["o"]).map (·.1) = some false ∧
    (exists_ exCtx (init exDirs exOld) ["k"]).map (·.1) = some true ∧
    ¬ (exFS.isDir ["o"] = true ∧ ¬ (["o"] ∈ exDirs ∧ Gone exFS exDirs exOld ["o"])) := by
  have h1 : (exists_ exCtx (init exDirs exOld) ["o"]).map (·.1) = some false := by
    simp [exists_, isFile, isFileNoRead, isDir, exCtx, isRemoved, hasCount, init, add, exDirs, exFiles, exOld, checkMaybeRemoved, checkLoop,
      BuildDirs.discard, exFS, FS.isFile, FS.isDir, FS.get, FS.listdir, FS.childNames, FS.sortStrs, FS.insertStr, FS.parent]
  have h2 : (exists_ exCtx (init exDirs exOld) ["k"]).map (·.1) = some true := by
    simp [exists_, isFile, isFileNoRead, isDir, exCtx, isRemoved, hasCount, init, add, exDirs, exFiles, exOld, checkMaybeRemoved, checkLoop,
      BuildDirs.discard, exFS, FS.isFile, FS.isDir, FS.get, FS.listdir, FS.childNames, FS.sortStrs, FS.insertStr, FS.parent]
  refine ⟨h1, h2, ?_⟩
  cases hr : exists_ exCtx (init exDirs exOld) ["o"] with
  | none => rw [hr] at h1; cases h1
  | some x =>
    obtain ⟨r, b'⟩ := x
    rw [hr] at h1; simp at h1; subst h1
    have := (C04_start_exists exCtx exDirs exOld exCtx_atStart exFS_wf ex_valid' _ QReach.init ["o"] false b' hr).1
    intro hh
    have := this.mpr (Or.inr hh)
    cases this

end Overlay
end FB

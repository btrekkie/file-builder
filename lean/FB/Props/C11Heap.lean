/-
  C11 on the heap model (`FB.Heap`): with every edge copying, no step of user code reaches a cell of a record, so a
  record denotes the same value for ever (`C11_records_immutable`); a copy denotes what it was made from
  (`copy_faithful`, `C11_served_value`); and each copy is needed (`needs_*`: one trace per edge on which a record
  changes when that copy is left out).
-/
import FB.Heap
namespace FB.Heap

/-- in the segment `[lo, hi)` every container's children lie in the segment, below the container -/
def Seg (h : Heap) (lo hi : Nat) : Prop :=
  ∀ a, lo ≤ a → a < hi → ∀ ks, h[a]? = some (.node ks) → ∀ k ∈ ks, lo ≤ k ∧ k < a

theorem Seg.append {h : Heap} {lo hi : Nat} (hs : Seg h lo hi) (hh : hi ≤ h.length) (x : Heap) : Seg (h ++ x) lo hi := by
  intro a h1 h2 ks hk k hm
  have : a < h.length := by omega
  rw [List.getElem?_append_left this] at hk
  exact hs a h1 h2 ks hk k hm

theorem Seg.join {h : Heap} {lo mid hi : Nat} (h1 : Seg h lo mid) (h2 : Seg h mid hi) (hl : lo ≤ mid) : Seg h lo hi := by
  intro a ha1 ha2 ks hk k hm
  by_cases hc : a < mid
  · exact h1 a ha1 hc ks hk k hm
  · have := h2 a (by omega) ha2 ks hk k hm
    omega

/-- what `alloc` returns: the heap grown at the end by a segment that holds the whole new structure, root last -/
structure AllocPost (h : Heap) (r : Heap × Nat) : Prop where
  ext : ∃ x, r.1 = h ++ x
  len : h.length < r.1.length
  root : r.2 + 1 = r.1.length
  seg : Seg r.1 h.length r.1.length

structure AllocLPost (h : Heap) (r : Heap × List Nat) : Prop where
  ext : ∃ x, r.1 = h ++ x
  len : h.length ≤ r.1.length
  roots : ∀ k ∈ r.2, h.length ≤ k ∧ k < r.1.length
  seg : Seg r.1 h.length r.1.length

theorem Seg.snoc {h : Heap} {lo : Nat} (hs : Seg h lo h.length) (c : Cell)
    (hc : ∀ ks, c = .node ks → ∀ k ∈ ks, lo ≤ k ∧ k < h.length) : Seg (h ++ [c]) lo (h ++ [c]).length := by
  intro a h1 h2 ks hk
  rw [List.length_append, List.length_singleton] at h2
  rcases Nat.lt_or_ge a h.length with hlt | hge
  · rw [List.getElem?_append_left hlt] at hk; exact hs a h1 hlt ks hk
  · have : a = h.length := by omega
    subst this
    rw [List.getElem?_concat_length] at hk
    exact hc ks (Option.some.inj hk)

mutual
theorem alloc_post : (h : Heap) → (t : Tree) → AllocPost h (alloc h t)
  | h, .atom n => by
    simp only [alloc]
    exact ⟨⟨_, rfl⟩, by simp, by simp, Seg.snoc (fun a h1 h2 => by omega) _ (fun ks hk => by cases hk)⟩
  | h, .node ts => by
    have ih := allocL_post h ts
    simp only [alloc]
    obtain ⟨x, hx⟩ := ih.ext
    exact ⟨⟨x ++ [.node (allocL h ts).2], by rw [hx, List.append_assoc]⟩, by simp; have := ih.len; omega, by simp,
      Seg.snoc ih.seg _ (fun ks hk => by cases hk; exact ih.roots)⟩
theorem allocL_post : (h : Heap) → (ts : List Tree) → AllocLPost h (allocL h ts)
  | h, [] => by
    simp only [allocL]
    exact ⟨⟨[], by simp⟩, Nat.le_refl _, by simp, fun a h1 h2 => by dsimp only at h2; omega⟩
  | h, t :: ts => by
    have i1 := alloc_post h t
    have i2 := allocL_post (alloc h t).1 ts
    simp only [allocL]
    obtain ⟨x1, hx1⟩ := i1.ext
    obtain ⟨x2, hx2⟩ := i2.ext
    refine ⟨⟨x1 ++ x2, by rw [hx2, hx1]; simp⟩, by have := i1.len; have := i2.len; dsimp only; omega, ?_, ?_⟩
    · intro k hk
      dsimp only at hk ⊢
      rcases List.mem_cons.mp hk with rfl | hk
      · have := i1.root; have := i1.len; have := i2.len; omega
      · have := i2.roots k hk; have := i1.len; omega
    · have s1 : Seg (allocL (alloc h t).1 ts).1 h.length (alloc h t).1.length := by
        rw [hx2]; exact i1.seg.append (Nat.le_refl _) _
      exact s1.join i2.seg (Nat.le_of_lt i1.len)
end

/-- the library's cells: children below the parent and the library's too; nothing the user holds; all allocated -/
structure Inv (s : St) : Prop where
  wf : ∀ a, s.lib a = true → ∀ ks, s.heap[a]? = some (.node ks) → ∀ k ∈ ks, k < a ∧ s.lib k = true
  sep : ∀ a, s.lib a = true → s.usr a = false
  libB : ∀ a, s.lib a = true → a < s.heap.length
  usrB : ∀ a, s.usr a = true → a < s.heap.length
  recs : ∀ rc ∈ s.recs, s.lib rc.root = true

theorem inv_init : Inv {} := ⟨by simp, by simp, by simp, by simp, by simp⟩

/-- what a step may do to the heap as far as the library's cells are concerned: nothing -/
def Keeps (s s' : St) : Prop :=
  (∀ a, s.lib a = true → s'.heap[a]? = s.heap[a]? ∧ s'.lib a = true) ∧ (∃ x, s'.recs = s.recs ++ x)

theorem Keeps.refl (s : St) : Keeps s s := ⟨fun _ h => ⟨rfl, h⟩, ⟨[], by simp⟩⟩
theorem Keeps.trans {a b c : St} (h1 : Keeps a b) (h2 : Keeps b c) : Keeps a c := by
  refine ⟨fun x hx => ?_, ?_⟩
  · obtain ⟨e1, l1⟩ := h1.1 x hx
    obtain ⟨e2, l2⟩ := h2.1 x l1
    exact ⟨e2.trans e1, l2⟩
  · obtain ⟨x1, e1⟩ := h1.2
    obtain ⟨x2, e2⟩ := h2.2
    exact ⟨x1 ++ x2, by rw [e2, e1]; simp⟩

theorem mark_true {f : Nat → Bool} {lo hi a : Nat} : mark f lo hi a = true ↔ f a = true ∨ (lo ≤ a ∧ a < hi) := by
  simp [mark]

/-- user code gains fresh cells -/
theorem inv_userExt (s : St) (hi : Inv s) (h2 : Heap) (x : Heap) (hx : h2 = s.heap ++ x) :
    Inv { s with heap := h2, usr := mark s.usr s.heap.length h2.length } ∧
    Keeps s { s with heap := h2, usr := mark s.usr s.heap.length h2.length } := by
  subst hx
  refine ⟨⟨?_, ?_, ?_, ?_, hi.recs⟩, ⟨?_, ⟨[], by simp⟩⟩⟩
  · intro a ha ks hk
    have hl := hi.libB a ha
    simp only at hk
    rw [List.getElem?_append_left hl] at hk
    exact hi.wf a ha ks hk
  · intro a ha
    have hl := hi.libB a ha
    have := hi.sep a ha
    simp only [mark, this, Bool.false_or, Bool.and_eq_false_imp, decide_eq_true_eq, decide_eq_false_iff_not]
    intro; omega
  · intro a ha; have := hi.libB a ha; simp; omega
  · intro a ha
    rcases mark_true.mp ha with h | h
    · have := hi.usrB a h; simp; omega
    · exact h.2
  · intro a ha
    exact ⟨by simp only; rw [List.getElem?_append_left (hi.libB a ha)], ha⟩

theorem copy_ext (h : Heap) (a : Nat) (h2 : Heap) (r : Nat) (hc : copy h a = some (h2, r)) :
    ∃ t, (h2, r) = alloc h t := by
  unfold copy at hc
  cases hr : read h (h.length + 1) a with
  | none => rw [hr] at hc; cases hc
  | some t => rw [hr] at hc; simp at hc; exact ⟨t, hc.symm⟩

theorem inv_handOut (s : St) (hi : Inv s) (rc : Rec) : Inv (handOut s rc true) ∧ Keeps s (handOut s rc true) := by
  unfold handOut
  simp only [if_true]
  cases hc : copy s.heap rc.root with
  | none => exact ⟨hi, Keeps.refl s⟩
  | some p =>
    obtain ⟨h2, r⟩ := p
    obtain ⟨t, ht⟩ := copy_ext _ _ _ _ hc
    have hp := alloc_post s.heap t
    rw [← ht] at hp
    obtain ⟨x, hx⟩ := hp.ext
    exact inv_userExt s hi h2 x hx

/-- the library gains a fresh record -/
theorem inv_libExt (s : St) (hi : Inv s) (t : Tree) :
    Inv { s with heap := (alloc s.heap t).1, lib := mark s.lib s.heap.length (alloc s.heap t).1.length,
                 recs := s.recs ++ [⟨s.heap.length, (alloc s.heap t).2⟩] } ∧
    Keeps s { s with heap := (alloc s.heap t).1, lib := mark s.lib s.heap.length (alloc s.heap t).1.length,
                     recs := s.recs ++ [⟨s.heap.length, (alloc s.heap t).2⟩] } := by
  have hp := alloc_post s.heap t
  obtain ⟨x, hx⟩ := hp.ext
  refine ⟨⟨?_, ?_, ?_, ?_, ?_⟩, ⟨?_, ⟨_, rfl⟩⟩⟩
  · intro a ha ks hk
    simp only at hk ha ⊢
    rcases mark_true.mp ha with h | h
    · have hl := hi.libB a h
      rw [hx, List.getElem?_append_left hl] at hk
      have h1 := hi.wf a h ks hk
      exact fun k hm => ⟨(h1 k hm).1, mark_true.mpr (Or.inl (h1 k hm).2)⟩
    · intro k hm
      obtain ⟨h1, h2⟩ := hp.seg a h.1 h.2 ks hk k hm
      exact ⟨h2, mark_true.mpr (Or.inr ⟨h1, by omega⟩)⟩
  · intro a ha
    simp only at ha ⊢
    rcases mark_true.mp ha with h | h
    · exact hi.sep a h
    · cases hu : s.usr a with
      | false => rfl
      | true => have := hi.usrB a hu; omega
  · intro a ha
    simp only at ha ⊢
    rcases mark_true.mp ha with h | h
    · have := hi.libB a h; have := hp.len; omega
    · exact h.2
  · intro a ha
    simp only at ha ⊢
    have := hi.usrB a ha; have := hp.len; omega
  · intro rc hrc
    simp only at hrc ⊢
    rcases List.mem_append.mp hrc with h | h
    · exact mark_true.mpr (Or.inl (hi.recs rc h))
    · simp at h; subst h
      simp only
      exact mark_true.mpr (Or.inr ⟨by have := hp.root; have := hp.len; omega, by have := hp.root; omega⟩)
  · intro a ha
    simp only
    exact ⟨by rw [hx, List.getElem?_append_left (hi.libB a ha)], mark_true.mpr (Or.inl ha)⟩

theorem inv_recordAndHand (s : St) (hi : Inv s) (a : Nat) :
    Inv (recordAndHand s a true true) ∧ Keeps s (recordAndHand s a true true) := by
  unfold recordAndHand
  by_cases hu : s.usr a = false
  · simp only [hu, if_true]; exact ⟨hi, Keeps.refl s⟩
  · simp only [hu, if_true]
    cases hc : copy s.heap a with
    | none => exact ⟨hi, Keeps.refl s⟩
    | some p =>
      obtain ⟨h1, r⟩ := p
      obtain ⟨t, ht⟩ := copy_ext _ _ _ _ hc
      have e1 : h1 = (alloc s.heap t).1 := by rw [← ht]
      have e2 : r = (alloc s.heap t).2 := by rw [← ht]
      subst e1 e2
      obtain ⟨i1, k1⟩ := inv_libExt s hi t
      obtain ⟨i2, k2⟩ := inv_handOut _ i1 ⟨s.heap.length, (alloc s.heap t).2⟩
      exact ⟨i2, k1.trans k2⟩

/-- **one step** of the code as it is (every edge copies): the invariant is kept, no cell of a record is touched -/
theorem inv_step (s : St) (hi : Inv s) (e : Ev) : Inv (step {} s e) ∧ Keeps s (step {} s e) := by
  cases e with
  | userAlloc t =>
    obtain ⟨x, hx⟩ := (alloc_post s.heap t).ext
    exact inv_userExt s hi _ x hx
  | userWrite a c =>
    simp only [step]
    split
    · rename_i hc
      obtain ⟨h1, h2, h3⟩ := hc
      have hnl : ∀ b, s.lib b = true → b ≠ a := by
        intro b hb e; subst e
        have := hi.sep b hb; rw [this] at h2; cases h2
      refine ⟨⟨?_, hi.sep, ?_, ?_, hi.recs⟩, ⟨?_, ⟨[], by simp⟩⟩⟩
      · intro b hb ks hk
        simp only at hk
        rw [List.getElem?_set_ne (hnl b hb).symm] at hk
        exact hi.wf b hb ks hk
      · intro b hb; simp; exact hi.libB b hb
      · intro b hb; simp; exact hi.usrB b hb
      · intro b hb
        exact ⟨by simp only; rw [List.getElem?_set_ne (hnl b hb).symm], hb⟩
    · exact ⟨hi, Keeps.refl s⟩
  | call a => exact inv_recordAndHand s hi a
  | ret a => exact inv_recordAndHand s hi a
  | serve i =>
    simp only [step]
    cases s.recs[i]? with
    | none => exact ⟨hi, Keeps.refl s⟩
    | some rc => exact inv_handOut s hi rc
  | query t =>
    simp only [step]
    obtain ⟨i1, k1⟩ := inv_libExt s hi t
    obtain ⟨i2, k2⟩ := inv_handOut _ i1 ⟨s.heap.length, (alloc s.heap t).2⟩
    exact ⟨i2, k1.trans k2⟩

theorem inv_run (evs : List Ev) : ∀ (s : St), Inv s → Inv (run {} s evs) ∧ Keeps s (run {} s evs) := by
  induction evs with
  | nil => intro s hi; exact ⟨hi, Keeps.refl s⟩
  | cons e r ih =>
    intro s hi
    obtain ⟨i1, k1⟩ := inv_step s hi e
    obtain ⟨i2, k2⟩ := ih _ i1
    exact ⟨i2, k1.trans k2⟩

theorem readL_congr {h h' : Heap} {f f' : Nat} : ∀ {as : List Nat}, (∀ a ∈ as, read h' f' a = read h f a) →
    readL h' f' as = readL h f as
  | [], _ => by rw [readL, readL]
  | a :: as, hm => by
    rw [readL, readL, hm a List.mem_cons_self, readL_congr fun k hk => hm k (List.mem_cons_of_mem _ hk)]

theorem readL_mono {h h' : Heap} {f f' : Nat} : ∀ {as : List Nat} {ts : List Tree},
    (∀ a ∈ as, ∀ t, read h f a = some t → read h' f' a = some t) → readL h f as = some ts → readL h' f' as = some ts
  | [], ts, _, hr => by rw [readL] at hr ⊢; exact hr
  | a :: as, ts, hm, hr => by
    rw [readL] at hr ⊢
    cases h1 : read h f a with
    | none => rw [h1] at hr; cases hr
    | some t =>
      cases h2 : readL h f as with
      | none => rw [h1, h2] at hr; cases hr
      | some ts' =>
        rw [h1, h2] at hr
        rw [hm a List.mem_cons_self t h1, readL_mono (fun k hk => hm k (List.mem_cons_of_mem _ hk)) h2]
        exact hr

/-- frame: the value at a library cell only depends on the library's cells -/
theorem read_frame (s s' : St) (hi : Inv s) (hk : Keeps s s') : (f a : Nat) → s.lib a = true →
    read s'.heap f a = read s.heap f a
  | 0, _, _ => by rw [read, read]
  | f+1, a, ha => by
    rw [read, read, (hk.1 a ha).1]
    cases hc : s.heap[a]? with
    | none => rfl
    | some c =>
      cases c with
      | atom n => rfl
      | node ks =>
        simp only
        rw [readL_congr fun k hm => read_frame s s' hi hk f k (hi.wf a ha ks hc k hm).2]

theorem readL_frame (s s' : St) (hi : Inv s) (hk : Keeps s s') : (f : Nat) → (as : List Nat) →
    (∀ k ∈ as, s.lib k = true) → readL s'.heap f as = readL s.heap f as :=
  fun f _ h => readL_congr fun k hm => read_frame s s' hi hk f k (h k hm)

/-- **C11 (heap level)**: in every run of the code as it is — user code building values, mutating in place whatever it
    holds, calling, returning, being served from the cache, querying, in any order and number — a record, once made,
    denotes the same value for ever. -/
theorem C11_records_immutable (evs : List Ev) (s : St) (hi : Inv s) (i : Nat) (hlt : i < s.recs.length) :
    recVal (run {} s evs) i = recVal s i := by
  obtain ⟨_, hk⟩ := inv_run evs s hi
  obtain ⟨x, hx⟩ := hk.2
  unfold recVal
  have e1 : (run {} s evs).recs[i]? = s.recs[i]? := by rw [hx, List.getElem?_append_left hlt]
  rw [e1]
  cases hr : s.recs[i]? with
  | none => rfl
  | some rc =>
    simp only
    exact read_frame s _ hi hk _ _ (hi.recs rc (List.mem_of_getElem? hr))

theorem C11_records_immutable_from_init (evs evs' : List Ev) (i : Nat) (hlt : i < (run {} {} evs).recs.length) :
    recVal (run {} (run {} {} evs) evs') i = recVal (run {} {} evs) i :=
  C11_records_immutable evs' _ (inv_run evs {} inv_init).1 i hlt


/-! ### fidelity: a copy denotes the value it was made from -/

theorem read_mono (h x : Heap) : (f a : Nat) → (t : Tree) → read h f a = some t → ∀ g, f ≤ g → read (h ++ x) g a = some t
  | 0, _, _, hr, _, _ => by rw [read] at hr; cases hr
  | _+1, _, _, _, 0, hg => absurd hg (Nat.not_succ_le_zero _)
  | f+1, a, t, hr, g+1, hg => by
    rw [read] at hr ⊢
    cases hc : h[a]? with
    | none => rw [hc] at hr; cases hr
    | some c =>
      rw [List.getElem?_append_left (List.getElem?_eq_some_iff.mp hc).1, hc]
      rw [hc] at hr
      cases c with
      | atom n => exact hr
      | node ks =>
        simp only at hr ⊢
        cases hrl : readL h f ks with
        | none => rw [hrl] at hr; cases hr
        | some ts =>
          rw [hrl] at hr
          rw [readL_mono (fun k _ t' hk => read_mono h x f k t' hk g (Nat.le_of_succ_le_succ hg)) hrl]
          exact hr

theorem read_fuel_le (h : Heap) (a : Nat) (t : Tree) (f : Nat) (hr : read h f a = some t) (g : Nat) (hg : f ≤ g) :
    read h g a = some t := by
  simpa only [List.append_nil] using read_mono h [] f a t hr g hg

theorem readL_fuel_le (h : Heap) (as : List Nat) (ts : List Tree) (f : Nat) (hr : readL h f as = some ts) :
    ∀ g, f ≤ g → readL h g as = some ts :=
  fun g hg => readL_mono (fun a _ t ha => read_fuel_le h a t f ha g hg) hr

mutual
/-- reading a freshly allocated structure gives back the value -/
theorem read_alloc : (h : Heap) → (t : Tree) → read (alloc h t).1 (alloc h t).1.length (alloc h t).2 = some t
  | h, .atom n => by simp [alloc, read]
  | h, .node ts => by
    have ih := readL_allocL h ts
    simp only [alloc, List.length_append, List.length_singleton]
    rw [read]
    simp only [List.getElem?_concat_length]
    rw [readL_mono (fun a _ t ha => read_mono _ _ _ a t ha _ (Nat.le_refl _)) ih]
    rfl
theorem readL_allocL : (h : Heap) → (ts : List Tree) → readL (allocL h ts).1 (allocL h ts).1.length (allocL h ts).2 = some ts
  | h, [] => by simp [allocL, readL]
  | h, t :: ts => by
    have i1 := read_alloc h t
    have i2 := readL_allocL (alloc h t).1 ts
    simp only [allocL, readL]
    obtain ⟨x, hx⟩ := (allocL_post (alloc h t).1 ts).ext
    have hl := (allocL_post (alloc h t).1 ts).len
    have := read_mono (alloc h t).1 x _ _ t i1 _ hl
    rw [← hx] at this
    rw [this, i2]
end

/-- `copy` is faithful: the new structure denotes what the old one denoted -/
theorem copy_faithful (h : Heap) (a : Nat) (h2 : Heap) (r : Nat) (hc : copy h a = some (h2, r)) :
    read h2 (r + 1) r = read h (h.length + 1) a := by
  unfold copy at hc
  cases hr : read h (h.length + 1) a with
  | none => rw [hr] at hc; cases hc
  | some t =>
    rw [hr] at hc
    simp at hc
    have := read_alloc h t
    rw [hc] at this
    have hroot := (alloc_post h t).root
    rw [hc] at hroot
    simp only at hroot this
    rw [hroot]; exact this

/-- a record always denotes a value (its structure is finite: children lie below their parent) -/
theorem lib_read_some (s : St) (hi : Inv s) : ∀ (n a : Nat), a < n → s.lib a = true → ∃ t, read s.heap (a + 1) a = some t := by
  intro n
  induction n with
  | zero => intro a h; omega
  | succ n ih =>
    intro a han hl
    have hb := hi.libB a hl
    rw [read]
    rw [List.getElem?_eq_getElem hb]
    cases hc : s.heap[a] with
    | atom m => exact ⟨_, rfl⟩
    | node ks =>
      simp only
      have hw := hi.wf a hl ks (by rw [List.getElem?_eq_getElem hb, hc])
      have : ∀ (l : List Nat), (∀ k ∈ l, k < a ∧ s.lib k = true) → ∃ ts, readL s.heap a l = some ts := by
        intro l
        induction l with
        | nil => intro _; exact ⟨[], by simp [readL]⟩
        | cons k r ihl =>
          intro hkr
          obtain ⟨ts, hts⟩ := ihl (fun k' hk' => hkr k' (by simp [hk']))
          obtain ⟨hk1, hk2⟩ := hkr k (by simp)
          obtain ⟨t, ht⟩ := ih k (by omega) hk2
          refine ⟨t :: ts, ?_⟩
          simp only [readL]
          rw [read_fuel_le _ _ _ _ ht a (by omega), hts]
      obtain ⟨ts, hts⟩ := this ks hw
      exact ⟨.node ts, by rw [hts]; rfl⟩

/-- **what is handed out is the recorded value**: serving record `i` always succeeds and the fresh structure the
    user receives denotes exactly what the record denotes -/
theorem C11_served_value (s : St) (hi : Inv s) (i : Nat) (rc : Rec) (hrc : s.recs[i]? = some rc) :
    ∃ h2 r, copy s.heap rc.root = some (h2, r) ∧ read h2 (r + 1) r = recVal s i ∧ s.heap.length ≤ r := by
  have hl := hi.recs rc (List.mem_of_getElem? hrc)
  obtain ⟨t, ht⟩ := lib_read_some s hi (rc.root + 1) rc.root (by omega) hl
  have hb := hi.libB _ hl
  have ht' := read_fuel_le _ _ _ _ ht (s.heap.length + 1) (by omega)
  have hc : copy s.heap rc.root = some (alloc s.heap t) := by unfold copy; rw [ht']; rfl
  refine ⟨(alloc s.heap t).1, (alloc s.heap t).2, hc, ?_, ?_⟩
  · rw [copy_faithful _ _ _ _ hc, ht']
    unfold recVal; rw [hrc]; exact ht.symm
  · have := (alloc_post s.heap t).root; have := (alloc_post s.heap t).len; omega

/-! ### the copies are needed: with any one of them left out, a record changes under the user's hands -/

def tList : Tree := .node [.atom 1, .atom 2]

/-- `_sanitize_args` left out: the record IS the caller's list; the caller appends to it afterwards -/
theorem needs_argsIn : recVal (run { argsIn := false } {} [.userAlloc tList, .call 2]) 0 = some tList ∧
    recVal (run { argsIn := false } {} [.userAlloc tList, .call 2, .userWrite 2 (.node [0])]) 0 = some (.node [.atom 1]) := by
  simp [recVal, run, step, recordAndHand, handOut, copy, alloc, allocL, read, readL, mark, cellOk, tList]

/-- the deep copy for the callee left out: the function edits its argument in place -/
theorem needs_argsOut : recVal (run { argsOut := false } {} [.userAlloc tList, .call 2]) 0 = some tList ∧
    recVal (run { argsOut := false } {} [.userAlloc tList, .call 2, .userWrite 5 (.node [3])]) 0 = some (.node [.atom 1]) := by
  simp [recVal, run, step, recordAndHand, handOut, copy, alloc, allocL, read, readL, mark, cellOk, tList]

/-- `_sanitize_return_value` left out: the function keeps the list it returned and edits it later -/
theorem needs_retIn : recVal (run { retIn := false } {} [.userAlloc tList, .ret 2, .userWrite 2 (.node [])]) 0 = some (.node []) := by
  simp [recVal, run, step, recordAndHand, handOut, copy, alloc, allocL, read, readL, mark, cellOk, tList]

/-- the deep copy of the return value left out: `r.append(x)` at the caller -/
theorem needs_retOut : recVal (run { retOut := false } {} [.userAlloc tList, .ret 2, .userWrite 5 (.node [3, 4, 4])]) 0 =
    some (.node [.atom 1, .atom 2, .atom 2]) := by
  simp [recVal, run, step, recordAndHand, handOut, copy, alloc, allocL, read, readL, mark, cellOk, tList]

/-- the same for a record served from the cache -/
theorem needs_retOut_cached : recVal (run { retOut := false } {} [.query tList, .serve 0, .userWrite 2 (.node [])]) 0 = some (.node []) := by
  simp [recVal, run, step, recordAndHand, handOut, copy, alloc, allocL, read, readL, mark, cellOk, tList]

/-- the deep copy of a query result left out: pruning the list `walk` / `list_dir` returned -/
theorem needs_queryOut : recVal (run { queryOut := false } {} [.query tList, .userWrite 2 (.node [0])]) 0 = some (.node [.atom 1]) := by
  simp [recVal, run, step, recordAndHand, handOut, copy, alloc, allocL, read, readL, mark, cellOk, tList]

/-- non-vacuity: with the code as it is the same traces leave the record alone, and the user's writes do take effect
    on the user's own structures -/
example : recVal (run {} {} [.userAlloc tList, .call 2, .userWrite 2 (.node [0]), .userWrite 8 (.node [])]) 0 = some tList ∧
    read (run {} {} [.userAlloc tList, .call 2, .userWrite 2 (.node [0]), .userWrite 8 (.node [])]).heap 9 8 = some (.node []) ∧
    read (run {} {} [.userAlloc tList, .call 2, .userWrite 2 (.node [0]), .userWrite 8 (.node [])]).heap 3 2 = some (.node [.atom 1]) := by
  simp [recVal, run, step, recordAndHand, handOut, copy, alloc, allocL, read, readL, mark, cellOk, tList]

end FB.Heap

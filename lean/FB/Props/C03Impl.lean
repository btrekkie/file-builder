/-
  C03 on the implementation model: with the cache in play (records replayed, old outputs adopted from the
  shelf, recorded failures re-enacted) the frame of `C03_run_frame` still holds.
-/
import FB.Props.C03
import FB.Lemmas.ReplayBasic
import FB.Props.C12
import FB.Lemmas.ImplRun
namespace FB
open FS Spec

theorem adopt_frame (s0 : SpecSt) (s2 : KSt) (path : Path) (made : List Path)
    (h : Frame s0 s2.sp) (hpd : s0.fs.get path ≠ some .dir) (hcl : path ∈ s2.sp.claimedFiles) :
    Frame s0 (Impl.adopt s2 path made).sp := by
  constructor
  · intro q hq
    have hqp : q ≠ path := by intro e; subst e; exact hpd hq
    simp only [Impl.adopt]
    split
    · split
      · exact h.dirs q hq
      · rw [get_set_ne _ _ _ _ hqp]; exact h.dirs q hq
    · exact h.dirs q hq
  · intro q b m hq hncl
    have hncl' : q ∉ s2.sp.claimedFiles := hncl
    have hqp : q ≠ path := by intro e; subst e; exact hncl' hcl
    simp only [Impl.adopt]
    split
    · split
      · exact h.files q b m hq hncl'
      · rw [get_set_ne _ _ _ _ hqp]; exact h.files q b m hq hncl'
    · exact h.files q b m hq hncl'

theorem unwind_frame (s0 : SpecSt) (s2 : KSt) (path : Path) (made : List Path)
    (h : Frame s0 s2.sp) (hmade : ∀ q ∈ made, s0.fs.get q ≠ some .dir) :
    Frame s0 (Impl.unwind s2 path made).sp := by
  constructor
  · intro q hq
    simp only [Impl.unwind]
    rcases rmEmpty_get made s2.sp.fs q with h' | ⟨hm, _, _⟩
    · rw [h']; exact h.dirs q hq
    · exact absurd hq (hmade q hm)
  · intro q b m hq hncl
    simp only [Impl.unwind]
    exact rmEmpty_file made s2.sp.fs q b m (h.files q b m hq hncl)

mutual
/-- re-enacting a record touches no foreign file and removes no directory that was there -/
theorem replayOp_frame (s0 : SpecSt) : (o : Op) → (s s' : KSt) → s.WF → Frame s0 s.sp →
    Impl.replayOp o s = some s' → Frame s0 s'.sp
  | .simple q ret exc ans, s, s', _, hf, h => by
    obtain ⟨rfl, _⟩ := replayOp_simple_some q ret exc ans s s' h
    exact hf
  | .buildFile path cmp fname args kwargs subs ret cmpRes raised sf content, s, s', hwf, hf, h => by
    obtain ⟨_, _, _, hncl, _, habs, made, s2, hdm, _, hs2, hs'⟩ := replayOp_buildFile_some _ _ _ _ _ _ _ _ _ _ _ _ _ h
    have hwf1 := replayS1_wf hwf path made raised
    have hmade := hf.made_absent hdm
    have hpd : s0.fs.get path ≠ some .dir := by
      intro hdq; rw [hf.dirs path hdq] at habs; cases habs
    have hf1 : Frame s0 (replayS1 s path made raised).sp := by
      constructor
      · intro q hq
        simp only [replayS1]
        rcases mkdirs_get made s.sp.fs q with h' | ⟨hn, _⟩
        · rw [h']; exact hf.dirs q hq
        · rw [hf.dirs q hq] at hn; cases hn
      · intro q b m hq hncl'
        simp only [replayS1] at hncl' ⊢
        exact mkdirs_file made s.sp.fs q b m (hf.files q b m hq (fun hm => hncl' (List.mem_cons_of_mem _ hm)))
    have hf2 := replayOps_frame s0 subs _ s2 hwf1 hf1 hs2
    have k12 := replayOps_keeps subs _ s2 hwf1 hs2
    have hcl2 : path ∈ s2.sp.claimedFiles := k12.claimed path (by simp [replayS1])
    subst hs'
    cases raised with
    | true => simp only [if_true]; exact unwind_frame s0 s2 path made hf2 hmade
    | false => simp only [Bool.false_eq_true, if_false]; exact adopt_frame s0 s2 path made hf2 hpd hcl2
  | .subbuild fname args kwargs subs ret raised sf, s, s', hwf, hf, h => by
    obtain ⟨_, _, _, hs⟩ := replayOp_subbuild_some _ _ _ _ _ _ _ _ _ h
    exact replayOps_frame s0 subs (Impl.subClaim s (subKey fname args kwargs)) s' (by intro p hp; exact hwf p hp) ⟨hf.dirs, hf.files⟩ hs
theorem replayOps_frame (s0 : SpecSt) : (os : List Op) → (s s' : KSt) → s.WF → Frame s0 s.sp →
    Impl.replayOps os s = some s' → Frame s0 s'.sp
  | [], s, s', _, hf, h => by
    simp [Impl.replayOps] at h; subst h; exact hf
  | o :: os, s, s', hwf, hf, h => by
    obtain ⟨sm, h1, h2⟩ := (replayOps_cons o os s s').mp h
    have k1 := replayOp_keeps o s sm hwf h1
    exact replayOps_frame s0 os sm s' (k1.wf hwf) (replayOp_frame s0 o s sm hwf hf h1) h2
end

/-- the invariant carried through a run of the implementation model -/
structure KFrame (s0 : SpecSt) (s s' : KSt) : Prop where
  frame : Frame s0 s'.sp
  wf : s'.WF
  claimed : ∀ p ∈ s.sp.claimedFiles, p ∈ s'.sp.claimedFiles
  inProg : s'.sp.inProg = s.sp.inProg

theorem KFrame.trans {s0 : SpecSt} {s s1 s' : KSt} (h1 : KFrame s0 s s1) (h2 : KFrame s0 s1 s') : KFrame s0 s s' :=
  ⟨h2.frame, h2.wf, fun p hp => h2.claimed p (h1.claimed p hp), h2.inProg.trans h1.inProg⟩

theorem KFrame.of_eq {s0 : SpecSt} {s s1 : KSt} (h : Frame s0 s.sp) (hwf : s.WF) (hfs : s1.sp.fs = s.sp.fs)
    (hcl : s1.sp.claimedFiles = s.sp.claimedFiles) (hip : s1.sp.inProg = s.sp.inProg) : KFrame s0 s s1 :=
  ⟨⟨by rw [hfs]; exact h.dirs, by rw [hfs, hcl]; exact h.files⟩, by intro p hp; rw [hip] at hp; rw [hcl]; exact hwf p hp,
    by rw [hcl]; exact fun _ hp => hp, hip⟩

/-- one `build_file` call keeps the frame, if runs of its function do -/
theorem fileCall_frame {s0 : SpecSt} {s s' : KSt} {path : Path} {cmp : Cmp} {fname : String} {args kwargs : Json}
    {body : Prog} {r : CallRes} {op : Op}
    (ihb : ∀ (t : Option Path) (s0 : SpecSt) (s : KSt), Frame s0 s.sp → s.WF → KFrame s0 s (Impl.run body t s).2.1)
    (h : Frame s0 s.sp) (hwf : s.WF) (hc : Impl.FileCall s path cmp fname args kwargs body r s' op) : KFrame s0 s s' := by
  -- once the set-up is through: the target is claimed and in progress, and a state that keeps the claims and takes
  -- the target out of the targets in progress again is framed like `s`
  have setup : ∀ sp1 made, bfSetup s.sp path = .ok (sp1, made) →
      (∀ q ∈ made, s0.fs.get q ≠ some .dir) ∧ s0.fs.get path ≠ some .dir ∧
      Frame s0 (Impl.afterSetup s sp1 path made).sp ∧ (Impl.afterSetup s sp1 path made).WF ∧
      path ∈ (Impl.afterSetup s sp1 path made).sp.claimedFiles ∧
      ∀ s3 : KSt, Frame s0 s3.sp → (∀ p ∈ (Impl.afterSetup s sp1 path made).sp.claimedFiles, p ∈ s3.sp.claimedFiles) →
        s3.sp.inProg = (Impl.afterSetup s sp1 path made).sp.inProg.erase path → KFrame s0 s s3 := by
    intro sp1 made hs
    obtain ⟨rfl, hncl, _, hnd, hdm, _⟩ := bfSetup_ok_fields _ _ _ _ hs
    refine ⟨h.made_absent hdm, fun hdq => ?_, setupState_frame s0 s.sp path made h hnd, fun p hp => ?_,
      List.mem_cons_self .., fun s3 hf3 hcl3 hip3 => ?_⟩
    · simp [isDir, h.dirs path hdq] at hnd
    · rcases List.mem_cons.mp hp with rfl | hp
      · exact List.mem_cons_self ..
      · exact List.mem_cons_of_mem _ (hwf p hp)
    · have hip : s3.sp.inProg = s.sp.inProg := hip3.trans (List.erase_cons_head ..)
      have hcl : ∀ p ∈ s.sp.claimedFiles, p ∈ s3.sp.claimedFiles := fun p hp => hcl3 p (List.mem_cons_of_mem _ hp)
      exact ⟨hf3, fun p hp => hcl p (hwf p (hip ▸ hp)), hcl, hip⟩
  cases hc with
  | refused e hs => exact .of_eq h hwf rfl rfl rfl
  | served sp1 made subs ret now content s2 hs hl =>
    obtain ⟨_, hpd, hfk1, hwfk1, hclk1, back⟩ := setup sp1 made hs
    obtain ⟨_, _, _, _, _, _, _, _, _, s2', -, -, -, -, -, hrep, -, hop, rfl⟩ := lookupFile_full _ _ _ _ _ _ _ _ _ hl
    cases hop
    have k12 := replayOps_keeps subs _ s2' hwfk1 hrep
    exact back _ (adopt_frame s0 s2' path made (replayOps_frame s0 subs _ s2' hwfk1 hfk1 hrep) hpd (k12.claimed path hclk1))
      k12.claimed (by show s2'.sp.inProg.erase path = _; rw [k12.inProg])
  | executed sp1 made out hs hl hrun =>
    obtain ⟨hmade, hpd, hfk1, hwfk1, hclk1, back⟩ := setup sp1 made hs
    have hb := ihb (some path) s0 _ (show Frame s0 (Impl.missStart _ path ⟨fname, some path, args, kwargs⟩).sp from
      ⟨hfk1.dirs, hfk1.files⟩) hwfk1
    rw [hrun] at hb
    exact back _ (bfFinish_frame s0 out.2.1.sp path made out.1 hb.frame hmade hpd (hb.claimed path hclk1))
      (fun p hp => by show p ∈ (bfFinish out.2.1.sp path made out.1).2.claimedFiles; rw [bfFinish_claimed]; exact hb.claimed p hp)
      (by show (bfFinish out.2.1.sp path made out.1).2.inProg = _; rw [bfFinish_inProg, hb.inProg]; rfl)

theorem subCall_frame {s0 : SpecSt} {s s' : KSt} {fname : String} {args kwargs : Json} {body : Prog} {r : CallRes} {op : Op}
    (ihb : ∀ (t : Option Path) (s0 : SpecSt) (s : KSt), Frame s0 s.sp → s.WF → KFrame s0 s (Impl.run body t s).2.1)
    (h : Frame s0 s.sp) (hwf : s.WF) (hc : Impl.SubCall s fname args kwargs body r s' op) : KFrame s0 s s' := by
  have hk1 : KFrame s0 s (Impl.subClaim s (subKey fname args kwargs)) := .of_eq h hwf rfl rfl rfl
  cases hc with
  | dup => exact .of_eq h hwf rfl rfl rfl
  | fault => exact .of_eq h hwf rfl rfl rfl
  | served subs ret s2 _ _ hl =>
    obtain ⟨_, _, _, _, _, _, -, -, hrep, hop⟩ := lookupSub_some _ _ _ _ _ _ hl
    cases hop
    have k12 := replayOps_keeps subs _ s' hk1.wf hrep
    exact hk1.trans ⟨replayOps_frame s0 subs _ s' hk1.wf hk1.frame hrep, k12.wf hk1.wf, k12.claimed, k12.inProg⟩
  | executed out _ _ _ hrun =>
    have hk1' : KFrame s0 s (Impl.subStart (Impl.subClaim s (subKey fname args kwargs)) ⟨fname, none, args, kwargs⟩) :=
      hk1.trans (.of_eq hk1.frame hk1.wf rfl rfl rfl)
    have hb := ihb none s0 _ hk1'.frame hk1'.wf
    rw [hrun] at hb
    exact hk1'.trans hb

/-- C03 (implementation model, while the functions run): every program, every old cache, every state
    of the tree. -/
theorem C03_impl_run_frame (prog : Prog) : ∀ (t : Option Path) (s0 : SpecSt) (s : KSt),
    Frame s0 s.sp → s.WF → KFrame s0 s (Impl.run prog t s).2.1 := by
  induction prog with
  | ret v => intro t s0 s h hwf; rw [Impl.run]; cases sanitize v <;> exact .of_eq h hwf rfl rfl rfl
  | raise e => intro t s0 s h hwf; exact .of_eq h hwf rfl rfl rfl
  | query q k ih => intro t s0 s h hwf; rw [Impl.run_query]; exact ih _ t s0 s h hwf
  | write b mt k ih =>
    intro t s0 s h hwf
    have h1 : ∀ s1 : KSt, KFrame s0 s s1 → KFrame s0 s (Impl.run k t s1).2.1 :=
      fun s1 h1 => h1.trans (ih t s0 s1 h1.frame h1.wf)
    cases t with
    | none => rw [Impl.run]; exact h1 s (.of_eq h hwf rfl rfl rfl)
    | some p => rw [Impl.run]; exact h1 _ (.of_eq h hwf rfl rfl rfl)
  | buildFile path cmp fname args kwargs body k ihb ihk =>
    intro t s0 s h hwf
    obtain ⟨r, s', op, hc, hrun⟩ := Impl.run_buildFile_call s path cmp fname args kwargs body
    have h1 := fileCall_frame ihb h hwf hc
    rw [hrun k t]
    exact h1.trans (ihk r t s0 s' h1.frame h1.wf)
  | subbuild fname args kwargs body k ihb ihk =>
    intro t s0 s h hwf
    obtain ⟨r, s', op, hc, hrun⟩ := Impl.run_subbuild_call s fname args kwargs body
    have h1 := subCall_frame ihb h hwf hc
    rw [hrun k t]
    exact h1.trans (ihk r t s0 s' h1.frame h1.wf)

/-- C03, closed form for the implementation model. -/
theorem C03_impl_run (prog : Prog) (t : Option Path) (s : KSt) (hwf : s.WF) :
    Frame s.sp (Impl.run prog t s).2.1.sp :=
  (C03_impl_run_frame prog t s.sp s (Frame.refl _) hwf).frame

/-- C03 for a whole build of the implementation model, once the old cache has been read: a regular file
    that is neither the cache file nor an output recorded by the previous committed build is, after the
    build, exactly as before (bytes and modification time) — unless the build committed and the path was
    passed to `build_file` in it.  A directory is still there unless the previous build recorded that it
    created it.  This covers commit, rollback (root raised, or the cache write failed: `abort`) and injected
    faults. -/
theorem C03_impl_buildGo (w : KWorld) (cf : Path) (name : String) (vs : List (String × Json)) (root : Prog)
    (ff : List Path) (fsb : List H) (ab : Nat) (old : CacheRec) (q : Path) :
    (∀ b m, w.fs.get q = some (.file b m) → q ≠ cf → q ∉ old.toRec.outputs →
      (Impl.buildGo w cf name vs root ff fsb ab old).world.fs.get q = some (.file b m) ∨
      q ∈ (Impl.buildGo w cf name vs root ff fsb ab old).claimed) ∧
    (w.fs.get q = some .dir → q ≠ cf → q ∉ old.toRec.createdDirs →
      (Impl.buildGo w cf name vs root ff fsb ab old).world.fs.get q = some .dir) := by
  have hpc := C12_preClean_frame w.fs cf old.toRec q
  have rbF : ∀ b m ds, w.fs.get q = some (.file b m) → (mkdirs w.fs ds).get q = some (.file b m) :=
    fun b m ds h => mkdirs_file ds w.fs q b m h
  have rbD : ∀ ds, w.fs.get q = some .dir → (mkdirs w.fs ds).get q = some .dir := by
    intro ds h
    rcases mkdirs_get ds w.fs q with h' | ⟨hn, _⟩
    · rw [h', h]
    · rw [h] at hn; cases hn
  cases hd : (if ab = 1 then .error .other else
      dirsToMake (visible (Impl.buildStart w cf vs ff fsb old []).sp) cf [] cf.dropLast : Except OSErr (List Path)) with
  | error e => rw [Impl.buildGo_nodirs hd]; exact ⟨fun b m h _ _ => Or.inl (rbF b m _ h), fun h _ _ => rbD _ h⟩
  | ok cds =>
    rw [Impl.buildGo_dirs hd]
    dsimp only
    cases hr : rootRes ab (Impl.run root none (Impl.buildStart w cf vs ff fsb old cds)).1 with
    | error e => exact ⟨fun b m h _ _ => Or.inl (rbF b m _ h), fun h _ _ => rbD _ h⟩
    | ok v =>
      generalize hs1 : Impl.buildStart w cf vs ff fsb old cds = s1
      have hs1fs : s1.sp.fs = mkdirs (preClean w.fs cf old.toRec) cds := by subst hs1; rfl
      have hfr := C03_impl_run root none s1 (by subst hs1; intro p hp; cases hp)
      dsimp only
      generalize (Impl.run root none s1).2.1 = s2 at hfr ⊢
      constructor
      · intro b m h hcf hno
        by_cases hcl : q ∈ s2.sp.claimedFiles
        · exact Or.inr hcl
        · left
          have h0 : (preClean w.fs cf old.toRec).get q = some (.file b m) := by
            rcases hpc with h' | ⟨_, h' | h' | h'⟩
            · rw [h', h]
            · exact absurd h'.1 hno
            · exact absurd h'.1 hcf
            · rw [h] at h'; cases h'.2
          have h1 : s1.sp.fs.get q = some (.file b m) := by rw [hs1fs]; exact mkdirs_file _ _ _ _ _ h0
          have h2 := hfr.files q b m h1 hcl
          simp only [FS.write]
          rw [get_set_ne _ _ _ _ hcf]; exact h2
      · intro h hqcf hno
        have h0 : (preClean w.fs cf old.toRec).get q = some .dir := by
          rcases hpc with h' | ⟨_, h' | h' | h'⟩
          · rw [h', h]
          · obtain ⟨_, b, m, hb⟩ := h'; rw [h] at hb; cases hb
          · obtain ⟨_, b, m, hb⟩ := h'; rw [h] at hb; cases hb
          · exact absurd h'.1 hno
        have h1 : s1.sp.fs.get q = some .dir := by
          rw [hs1fs]
          rcases mkdirs_get cds (preClean w.fs cf old.toRec) q with h' | ⟨hn, _⟩
          · rw [h', h0]
          · rw [h0] at hn; cases hn
        have h2 := hfr.dirs q h1
        simp only [FS.write]
        rw [get_set_ne _ _ _ _ hqcf]; exact h2

/-- **C03 for `build`** (implementation model): every history position, every program, every old cache,
    commit or rollback. -/
theorem C03_impl_build (w : KWorld) (cf : Path) (name : String) (vs : List (String × Json)) (root : Prog)
    (ff : List Path) (fsb : List H) (ab : Nat) (q : Path) :
    (∀ b m, w.fs.get q = some (.file b m) → q ≠ cf →
      (∀ r, w.cacheState cf = .valid r → q ∉ r.toRec.outputs) →
      (Impl.build w cf name vs root ff fsb ab).world.fs.get q = some (.file b m) ∨
      q ∈ (Impl.build w cf name vs root ff fsb ab).claimed) ∧
    (w.fs.get q = some .dir → (∀ r, w.cacheState cf = .valid r → q ∉ r.toRec.createdDirs) →
      (Impl.build w cf name vs root ff fsb ab).world.fs.get q = some .dir) := by
  unfold Impl.build
  cases hc : w.cacheState cf with
  | isDir => exact ⟨fun b m h _ _ => Or.inl h, fun h _ => h⟩
  | corrupt => exact ⟨fun b m h _ _ => Or.inl h, fun h _ => h⟩
  | absent =>
    simp only
    have hnd := KWorld.cacheState_absent hc
    have key := C03_impl_buildGo w cf name vs root ff fsb ab { buildName := name, versions := vs } q
    refine ⟨fun b m h hcf _ => key.1 b m h hcf List.not_mem_nil,
      fun h _ => key.2 h (fun e => by subst e; rw [hnd] at h; cases h) List.not_mem_nil⟩
  | valid r =>
    simp only
    obtain ⟨b0, m0, hfile⟩ := KWorld.cacheState_valid hc
    have hnd : w.fs.get cf ≠ some .dir := by rw [hfile]; exact fun h => nomatch h
    split
    · have key := C03_impl_buildGo w cf name vs root ff fsb ab r q
      exact ⟨fun b m h hcf ho => key.1 b m h hcf (ho r rfl),
        fun h ho => key.2 h (fun e => by subst e; exact hnd h) (ho r rfl)⟩
    · exact ⟨fun b m h _ _ => Or.inl h, fun h _ => h⟩

end FB

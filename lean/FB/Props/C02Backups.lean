/-
  C02 — the undo log (`FB.Backups`, `file_backups.py`): `restore_all` puts every saved file back — bytes and
  modification time — provided its path is not a directory at that moment and no parent of it is a regular
  file (the two situations in which the Python logs an error and skips the file), and touches no other regular
  file.  The order in which `_roll_back` removes the build's directories *before* calling `restore_all` is what
  establishes the first proviso; seeds C03-B/C03-D/C03-E break exactly that.
-/
import FB.Backups
import FB.Lemmas.Spec
import FB.Lemmas.FSKind
import Mathlib.Data.List.Basic
namespace FB
namespace Backups
open FS Spec

def properPrefix (a b : Path) : Prop := a <+: b ∧ a ≠ b

theorem properPrefix_of_prefix_dropLast {a x : Path} (hne : x ≠ []) (ha : a <+: x.dropLast) : properPrefix a x := by
  refine ⟨ha.trans (List.dropLast_prefix x), fun e => ?_⟩
  have h3 := ha.length_le
  rw [e, List.length_dropLast] at h3
  have : x.length ≠ 0 := fun hz => hne (List.length_eq_zero_iff.mp hz)
  omega

theorem dirsToMake_prefix (vfs : FS) (cf : Path) (bl : List Path) : ∀ (n : Nat) (d : Path) (made : List Path),
    d.length = n → dirsToMake vfs cf bl d = .ok made → ∀ x ∈ made, x <+: d :=
  fun _ _ _ _ h _ hx => (dirsToMake_mem h hx).1

theorem dirsToMake_ok (vfs : FS) : ∀ (n : Nat) (d : Path), d.length = n →
    (∀ a, a <+: d → vfs.isFile a = false) → ∃ made, dirsToMake vfs [] [] d = .ok made := by
  intro n
  induction n with
  | zero =>
    intro d hl _
    have : d = [] := List.length_eq_zero_iff.mp hl
    subst this
    exact ⟨[], dirsToMake_nil vfs [] []⟩
  | succ n ih =>
    intro d hl h
    have hd : d ≠ [] := by intro e; subst e; simp at hl
    obtain ⟨r, hr⟩ := ih d.dropLast (by simp [hl]) (fun a ha => h a (ha.trans (List.dropLast_prefix d)))
    rw [dirsToMake]
    simp only [hd, dite_false]
    by_cases h1 : vfs.isDir d = true
    · exact ⟨[], by simp [h1]⟩
    · have h2 : vfs.isFile d = false := h d (List.prefix_refl _)
      simp only [h1, h2, Bool.false_eq_true, if_false, List.contains_nil, hr]
      exact ⟨_, rfl⟩

theorem restoreOne_other (fs : FS) (x : Path × Entry) (q : Path) (hq : q ≠ x.1) :
    (restoreOne fs x).get q = fs.get q ∨
      (fs.get q = none ∧ (restoreOne fs x).get q = some .dir ∧ properPrefix q x.1) := by
  unfold restoreOne
  split
  · exact Or.inl rfl
  · unfold makedirs
    cases hdm : dirsToMake fs [] [] x.1.dropLast with
    | error e => exact Or.inl rfl
    | ok ds =>
      simp only
      rw [get_set_ne _ _ _ _ hq]
      rcases Rollback.mkdirs_get_mem ds fs q with h | ⟨hm, h1, h2⟩
      · exact Or.inl h
      · -- `q` became a directory: it is one of the directories made, an ancestor of the restored path
        have hp := (dirsToMake_mem hdm hm).1
        have hne : x.1 ≠ [] := fun e => by
          rw [e] at hp
          rw [List.prefix_nil.mp hp, get_nil] at h1; cases h1
        exact Or.inr ⟨h1, h2, properPrefix_of_prefix_dropLast hne hp⟩

theorem restoreOne_at (fs : FS) (x : Path × Entry) :
    (restoreOne fs x).get x.1 = fs.get x.1 ∨ (x.1 ≠ [] ∧ (restoreOne fs x).get x.1 = some x.2) := by
  unfold restoreOne
  split
  · exact Or.inl rfl
  · cases makedirs fs x.1.dropLast with
    | none => exact Or.inl rfl
    | some fs' =>
      by_cases hne : x.1 = []
      · left; simp only [hne, get_nil]
      · exact Or.inr ⟨hne, get_set_self _ _ _ hne⟩

theorem restoreOne_self (fs : FS) (x : Path × Entry) (hne : x.1 ≠ []) (hnd : fs.isDir x.1 = false)
    (hanc : ∀ a, a <+: x.1.dropLast → fs.isFile a = false) : (restoreOne fs x).get x.1 = some x.2 := by
  unfold restoreOne
  simp only [hnd, Bool.false_eq_true, if_false]
  obtain ⟨ds, hds⟩ := dirsToMake_ok fs _ x.1.dropLast rfl hanc
  simp only [makedirs, hds]
  exact get_set_self _ _ _ hne

/-- **C02 (undo log)**: `restore_all` puts back every saved file and touches no other regular file. -/
theorem restoreAll_spec : ∀ (saved : List (Path × Entry)) (fs : FS),
    (saved.map (·.1)).Nodup →
    (∀ x ∈ saved, ∀ y ∈ saved, ¬ properPrefix x.1 y.1) →
    (∀ x ∈ saved, ∃ c m, x.2 = .file c m) →
    (∀ x ∈ saved, x.1 ≠ [] ∧ fs.isDir x.1 = false ∧ ∀ a, a <+: x.1.dropLast → fs.isFile a = false) →
    (∀ x ∈ saved, (saved.foldl restoreOne fs).get x.1 = some x.2) ∧
    (∀ q c m, fs.get q = some (.file c m) → (∀ x ∈ saved, x.1 ≠ q) →
      (saved.foldl restoreOne fs).get q = some (.file c m)) := by
  intro saved
  induction saved with
  | nil => intro fs _ _ _ _; exact ⟨(fun x hx => nomatch hx), (fun q c m h _ => h)⟩
  | cons x rest ih =>
    intro fs hnd hanti hfile hready
    simp only [List.foldl]
    have hnd' : x.1 ∉ rest.map (·.1) ∧ (rest.map (·.1)).Nodup := List.nodup_cons.mp hnd
    obtain ⟨hx1, hx2, hx3⟩ := hready x (List.mem_cons_self ..)
    have hself := restoreOne_self fs x hx1 hx2 hx3
    have hready' : ∀ y ∈ rest, y.1 ≠ [] ∧ (restoreOne fs x).isDir y.1 = false ∧
        ∀ a, a <+: y.1.dropLast → (restoreOne fs x).isFile a = false := by
      intro y hy
      obtain ⟨hy1, hy2, hy3⟩ := hready y (List.mem_cons_of_mem _ hy)
      have hyx : y.1 ≠ x.1 := by
        intro e
        exact hnd'.1 (List.mem_map.mpr ⟨y, hy, e⟩)
      refine ⟨hy1, ?_, ?_⟩
      · rcases restoreOne_other fs x y.1 hyx with h | ⟨_, _, hp⟩
        · exact (isDir_congr h).trans hy2
        · exact absurd hp (hanti y (List.mem_cons_of_mem _ hy) x (List.mem_cons_self ..))
      · intro a ha
        by_cases hax : a = x.1
        · -- the restored file would be a proper ancestor of `y`
          exact absurd (hax ▸ properPrefix_of_prefix_dropLast hy1 ha)
            (hanti x (List.mem_cons_self ..) y (List.mem_cons_of_mem _ hy))
        · rcases restoreOne_other fs x a hax with h | ⟨_, h2, _⟩
          · exact (isFile_congr h).trans (hy3 a ha)
          · exact isFile_false_iff.mpr (fun _ _ e => nomatch h2.symm.trans e)
    obtain ⟨ih1, ih2⟩ := ih (restoreOne fs x) hnd'.2
      (fun a ha b hb => hanti a (List.mem_cons_of_mem _ ha) b (List.mem_cons_of_mem _ hb))
      (fun a ha => hfile a (List.mem_cons_of_mem _ ha)) hready'
    constructor
    · intro y hy
      rcases List.mem_cons.mp hy with rfl | hy
      · obtain ⟨c, m, hc⟩ := hfile y (List.mem_cons_self ..)
        rw [hc] at hself ⊢
        exact ih2 y.1 c m hself (fun z hz e => hnd'.1 (List.mem_map.mpr ⟨z, hz, e⟩))
      · exact ih1 y hy
    · intro q c m hq hne
      have hqx : q ≠ x.1 := fun e => hne x (List.mem_cons_self ..) e.symm
      have : (restoreOne fs x).get q = some (.file c m) := by
        rcases restoreOne_other fs x q hqx with h | ⟨h1, _, _⟩
        · rw [h, hq]
        · rw [hq] at h1; cases h1
      exact ih2 q c m this (fun z hz => hne z (List.mem_cons_of_mem _ hz))

theorem backUp_of_file {fs : FS} {p : Path} {c : String} {m : Nat} (b : BK) (h : fs.get p = some (.file c m)) :
    backUpAndRemove fs b p = (fs.erase p, { b with saved := b.saved ++ [(p, .file c m)] }, true) := by
  rw [backUpAndRemove, h]

/-- saving a file removes it and remembers exactly what was there -/
theorem backUp_file (fs : FS) (b : BK) (p : Path) (c : String) (m : Nat) (hp : p ≠ []) (h : fs.get p = some (.file c m)) :
    (backUpAndRemove fs b p).1.get p = none ∧ (backUpAndRemove fs b p).2.1.saved = b.saved ++ [(p, .file c m)] ∧
    (backUpAndRemove fs b p).2.2 = true ∧ ∀ q, q ≠ p → (backUpAndRemove fs b p).1.get q = fs.get q := by
  rw [backUp_of_file b h]
  exact ⟨get_erase_self _ _ hp, rfl, rfl, fun q hq => get_erase_ne _ _ _ hq⟩

theorem backUp_nondir (fs : FS) (b : BK) (p : Path) (hnd : fs.isDir p = false) :
    (fs.get p = none ∧ backUpAndRemove fs b p = (fs, b, false)) ∨
    ∃ c m, fs.get p = some (.file c m) ∧
      backUpAndRemove fs b p = (fs.erase p, { b with saved := b.saved ++ [(p, .file c m)] }, true) := by
  cases hg : fs.get p with
  | none => exact Or.inl ⟨rfl, by rw [backUpAndRemove, hg]⟩
  | some e =>
    cases e with
    | dir => rw [isDir_false_iff] at hnd; exact absurd hg hnd
    | file c m => exact Or.inr ⟨c, m, rfl, backUp_of_file b hg⟩

theorem backUp_saved (fs : FS) (b : BK) (p : Path) :
    ∀ y ∈ (backUpAndRemove fs b p).2.1.saved, y ∈ b.saved ∨ y.1 = p := by
  intro y hy
  unfold backUpAndRemove at hy
  split at hy
  · exact Or.inl hy
  · rcases List.mem_append.mp hy with hy | hy
    · exact Or.inl hy
    · exact Or.inr (List.mem_singleton.mp hy ▸ rfl)
  · exact Or.inl hy

/-- the premises of `restoreAll_spec` are satisfiable, and the round trip works on a concrete tree: a file is
    saved, its directory is removed and something else is written; `restore_all` brings the old file back and
    leaves the foreign file alone -/
example :
    let fs0 : FS := [(["a"], .dir), (["a", "f"], .file "old" 1), (["g"], .file "g" 2)]
    let r := backUpAndRemove fs0 {} ["a", "f"]
    let fs1 := (r.1.rmtree ["a"]).set ["h"] (.file "new" 9)
    let fs2 := (restoreAll fs1 r.2.1).1
    r.2.2 = true ∧ fs2.get ["a", "f"] = some (.file "old" 1) ∧ fs2.get ["g"] = some (.file "g" 2) ∧
      fs2.get ["h"] = some (.file "new" 9) ∧ fs2.get ["a"] = some .dir := by
  decide +kernel

end Backups
end FB

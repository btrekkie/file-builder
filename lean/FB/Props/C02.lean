/-
  C02 / C14 — rollback.  In the models a build that raises returns the pre-build tree (the only
  latitude: directories the previous build recorded as created reappear).  How the Python achieves this
  on one physical tree is modelled separately (`FB.Backups`: the undo log, `FB.Rollback`: `_roll_back`) and
  proved to restore the regular files in Props/C02Backups and Props/C02Rollback; the correspondence check
  compares the real tree (bytes, mtime, inode) with the pre-build snapshot after every failing build and fault.
-/
import FB.Lemmas.Spec
namespace FB
open FS Spec

/-- the tree a rolled-back build leaves: the pre-build tree plus the recorded directories -/
def rolledBack (fs : FS) (oldCreated : List Path) : FS :=
  mkdirs fs (oldCreated.mergeSort (fun a b => a.length ≤ b.length))

/-- C02 (what rollback may change): every regular file is back exactly (bytes and modification time);
    nothing is removed; anything new is a directory. -/
theorem C02_rolledBack_frame (fs : FS) (ds : List Path) (p : Path) :
    (rolledBack fs ds).get p = fs.get p ∨ (fs.get p = none ∧ (rolledBack fs ds).get p = some .dir) :=
  mkdirs_get _ fs p

theorem C02_rolledBack_files (fs : FS) (ds : List Path) (p : Path) (b : String) (m : Nat)
    (h : fs.get p = some (.file b m)) : (rolledBack fs ds).get p = some (.file b m) :=
  mkdirs_file _ fs p b m h

theorem C02_spec_buildGo_raises (w : World) (cf : Path) (name : String) (root : Prog)
    (ff : List Path) (fsb : List H) (ab : Nat) (old : Rec) (e : Exc)
    (h : (Spec.buildGo w cf name root ff fsb ab old).res = .error e) :
    (Spec.buildGo w cf name root ff fsb ab old).world.recs = w.recs ∧
    ∃ ds, (Spec.buildGo w cf name root ff fsb ab old).world.fs = rolledBack w.fs ds := by
  cases hd : (if ab = 1 then .error .other else dirsToMake (visible (buildStart w cf ff fsb old [])) cf [] cf.dropLast :
      Except OSErr (List Path)) with
  | error e' => rw [buildGo_nodirs hd]; exact ⟨rfl, _, rfl⟩
  | ok cds =>
    rw [buildGo_dirs hd] at h ⊢
    dsimp only at h ⊢
    cases hr : rootRes ab (run root none (buildStart w cf ff fsb old cds)).1 with
    | error e' => exact ⟨rfl, _, rfl⟩
    | ok v => rw [hr] at h; cases h

/-- C02 (reference): whenever `build` ends with an exception — raised by the root function, by anything
    it calls without catching, by a refused call, or by the (injected) failure of the cache write — no record
    is added and the tree is the pre-build tree, rolled back. -/
theorem C02_spec_build_raises (w : World) (cf : Path) (name : String) (root : Prog)
    (ff : List Path) (fsb : List H) (ab : Nat) (e : Exc)
    (h : (Spec.build w cf name root ff fsb ab).res = .error e) :
    (Spec.build w cf name root ff fsb ab).world.recs = w.recs ∧
    ((Spec.build w cf name root ff fsb ab).world.fs = w.fs ∨
      ∃ ds, (Spec.build w cf name root ff fsb ab).world.fs = rolledBack w.fs ds) := by
  unfold Spec.build at h ⊢
  cases hc : w.cacheState cf with
  | isDir => simp
  | corrupt => simp
  | absent =>
    simp only [hc] at h ⊢
    have := C02_spec_buildGo_raises w cf name root ff fsb ab _ e h
    exact ⟨this.1, Or.inr this.2⟩
  | valid r =>
    simp only [hc] at h ⊢
    by_cases hn : r.buildName = name
    · simp only [hn, if_true] at h ⊢
      have := C02_spec_buildGo_raises w cf name root ff fsb ab _ e h
      exact ⟨this.1, Or.inr this.2⟩
    · simp [hn]

/-- C14 (model of an injected fault): the setup of the call in progress fails with the OSError, before
    anything is claimed or made. -/
theorem C14_fault_surfaces (s : SpecSt) (path : Path) (ds : List Path)
    (h1 : path ∉ s.claimedFiles) (h2 : path ≠ s.cacheFile) (h3 : s.fs.isDir path = false)
    (h4 : dirsToMake (visible s) s.cacheFile s.inProg path.dropLast = .ok ds)
    (hf : path ∈ s.failFiles) : bfSetup s path = .error (.os .other) := by
  unfold bfSetup
  simp [h1, h2, h3, h4, hf]

end FB

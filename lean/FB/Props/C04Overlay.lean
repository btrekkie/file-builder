/-
  C04 at the level of the algorithm (`FB.Overlay`, `simple_operation_executor.py`): mutual consistency of the
  answers whatever the `BuildDirs` memo contains.
-/
import FB.Overlay
namespace FB
namespace Overlay
open BuildDirs (BD)

/-- `exists = is_file or is_dir` (the second disjunct evaluated in the state the first one leaves) -/
theorem exists_eq (c : Ctx) (b : BD) (p : Path) :
    exists_ c b p = if (isFile c b p).1 then some (true, (isFile c b p).2) else isDir c (isFile c b p).2 p := by
  unfold exists_
  cases h : isFile c b p with
  | mk r b1 => cases r <;> simp

/-- the overlay never holds a path both as a file and as a directory (assumed of the overlay here; `CreatedFiles.Full.disj`
    says it of an overlay used as `FileBuilder` uses it) -/
def CfDisjoint (c : Ctx) (p : Path) : Prop :=
  ∀ cf, c.cf = some cf → ¬ (CreatedFiles.hasFile cf p = true ∧ CreatedFiles.hasDir cf p = true)

theorem isFileNoRead_of_silent (c : Ctx) (p : Path)
    (hno : ∀ cf, c.cf = some cf → CreatedFiles.hasFile cf p = false ∧ CreatedFiles.hasDir cf p = false) :
    isFileNoRead c p = if p = c.cacheFile then some false else if c.building.contains p then some false
      else if c.finished.contains p then none else if c.oldCreated.contains p then some false else none := by
  unfold isFileNoRead
  cases hc : c.cf with
  | none => rfl
  | some cf => simp only [(hno cf hc).1, (hno cf hc).2, Bool.false_eq_true, if_false]

theorem isDir_of_silent (c : Ctx) (b : BD) (p : Path)
    (hno : ∀ cf, c.cf = some cf → CreatedFiles.hasFile cf p = false ∧ CreatedFiles.hasDir cf p = false) :
    isDir c b p = match BuildDirs.isRemoved c.fs b p with
      | none => none
      | some (b1, true) => some (false, b1)
      | some (b1, false) => if c.fs.isDir p then some (true, BuildDirs.handleDirExists b1 p) else some (false, b1) := by
  unfold isDir
  cases hc : c.cf with
  | none => rfl
  | some cf => simp only [(hno cf hc).1, (hno cf hc).2, Bool.false_eq_true, if_false]; rfl

theorem isFileNoRead_true (c : Ctx) (p : Path) (h : isFileNoRead c p = some true) :
    ∃ cf, c.cf = some cf ∧ CreatedFiles.hasFile cf p = true := by
  have hsilent : ¬ ∀ cf, c.cf = some cf → CreatedFiles.hasFile cf p = false ∧ CreatedFiles.hasDir cf p = false := by
    intro hno
    rw [isFileNoRead_of_silent c p hno] at h
    split at h
    · cases h
    · split at h
      · cases h
      · split at h
        · cases h
        · split at h <;> cases h
  cases hc : c.cf with
  | none => exact absurd (fun cf h' => by rw [hc] at h'; cases h') hsilent
  | some cf =>
    refine ⟨cf, rfl, ?_⟩
    cases hF : CreatedFiles.hasFile cf p with
    | true => rfl
    | false =>
      cases hD : CreatedFiles.hasDir cf p with
      | false => exact absurd (fun cf' h' => by rw [hc] at h'; cases h'; exact ⟨hF, hD⟩) hsilent
      | true =>
        unfold isFileNoRead at h
        simp only [hc, hF, hD, Bool.false_eq_true, if_false, if_true] at h
        cases h

theorem isFileNoRead_none (c : Ctx) (p : Path) (h : isFileNoRead c p = none) :
    ∀ cf, c.cf = some cf → CreatedFiles.hasFile cf p = false ∧ CreatedFiles.hasDir cf p = false := by
  intro cf hc
  unfold isFileNoRead at h
  simp only [hc] at h
  by_cases hF : CreatedFiles.hasFile cf p = true
  · simp [hF] at h
  · by_cases hD : CreatedFiles.hasDir cf p = true
    · simp [hF, hD] at h
    · exact ⟨by simpa using hF, by simpa using hD⟩

theorem isDir_of_silent_not_dir (c : Ctx) (p : Path) (b1 : BD) (r : Bool) (b2 : BD)
    (hno : ∀ cf, c.cf = some cf → CreatedFiles.hasFile cf p = false ∧ CreatedFiles.hasDir cf p = false)
    (hd : isDir c b1 p = some (r, b2)) (hnd : c.fs.isDir p = false) : r = false := by
  rw [isDir_of_silent c b1 p hno] at hd
  cases hr : BuildDirs.isRemoved c.fs b1 p with
  | none => rw [hr] at hd; cases hd
  | some x =>
    obtain ⟨b3, rr⟩ := x
    rw [hr] at hd
    cases rr with
    | true => cases hd; rfl
    | false => simp only [hnd, Bool.false_eq_true, if_false] at hd; cases hd; rfl

/-- **nothing is both a regular file and a directory**, in whatever states of the memo the two questions are asked -/
theorem not_both (c : Ctx) (p : Path) (hcf : CfDisjoint c p) (b b1 : BD) (hf : (isFile c b p).1 = true)
    (r : Bool) (b2 : BD) (hd : isDir c b1 p = some (r, b2)) : r = false := by
  unfold isFile at hf
  cases hn : isFileNoRead c p with
  | some v =>
    rw [hn] at hf
    simp only at hf
    subst hf
    obtain ⟨cf, hc, hF⟩ := isFileNoRead_true c p hn
    have hD : CreatedFiles.hasDir cf p = false := by
      cases hD : CreatedFiles.hasDir cf p with
      | false => rfl
      | true => exact absurd ⟨hF, hD⟩ (hcf cf hc)
    unfold isDir at hd
    simp only [hc, hD, hF, Bool.false_eq_true, if_false, if_true, Option.some.injEq, Prod.mk.injEq] at hd
    exact hd.1.symm
  | none =>
    rw [hn] at hf
    simp only at hf
    have hreal : c.fs.isFile p = true := by
      by_cases h5 : c.fs.isFile p = true
      · exact h5
      · simp [h5] at hf
    have hnd : c.fs.isDir p = false := by
      unfold FS.isFile at hreal; unfold FS.isDir
      cases hg : c.fs.get p with
      | none => rfl
      | some e => cases e <;> simp_all
    exact isDir_of_silent_not_dir c p b1 r b2 (isFileNoRead_none c p hn) hd hnd

/-- `list_dir` returns only names of the candidate list -/
theorem filterExisting_sub (c : Ctx) (d : Path) : ∀ (ns : List String) (b : BD) (acc l : List String) (b' : BD),
    filterExisting c d ns b acc = some (l, b') → ∀ n ∈ l, n ∈ acc ∨ n ∈ ns := by
  intro ns
  induction ns with
  | nil =>
    intro b acc l b' h n hn
    simp only [filterExisting, Option.some.injEq, Prod.mk.injEq] at h
    rw [← h.1] at hn
    exact Or.inl (List.mem_reverse.mp hn)
  | cons m rest ih =>
    intro b acc l b' h n hn
    simp only [filterExisting] at h
    cases he : exists_ c b (d ++ [m]) with
    | none => rw [he] at h; cases h
    | some x =>
      obtain ⟨r, b1⟩ := x
      rw [he] at h
      cases r with
      | true =>
        rcases ih b1 (m :: acc) l b' h n hn with h' | h'
        · rcases List.mem_cons.mp h' with rfl | h''
          · exact Or.inr (List.mem_cons_self ..)
          · exact Or.inl h''
        · exact Or.inr (List.mem_cons_of_mem _ h')
      | false =>
        rcases ih b1 acc l b' h n hn with h' | h'
        · exact Or.inl h'
        · exact Or.inr (List.mem_cons_of_mem _ h')

end Overlay
end FB

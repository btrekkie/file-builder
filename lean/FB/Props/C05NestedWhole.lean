/-
  C05 — what a first run of a program of ANY nesting depth leaves behind, as far as nothing need be assumed about its
  targets: what it claims and records and that the files of the calls that returned are there (`RunClaims`), that a
  run without raised calls only inserts entries under its own keys (`nested_ok_run`), that the subbuild keys it claims
  are pairwise different (`RunKeys`), and what `_dirs_to_make` followed by `mkdir` produces (`mkdirs_dirsToMake`).
-/
import FB.Props.C05Records
import FB.Props.C05Whole
namespace FB
open FS Spec Impl

/-- what the state in which the function of a `build_file` starts takes over from the caller's: the target is
    claimed, nothing else of the bookkeeping moves -/
theorem missStart_fields {s : KSt} {sp1 : SpecSt} {path : Path} {made : List Path}
    (h : bfSetup s.sp path = .ok (sp1, made)) (inv : Inv) :
    (missStart (afterSetup s sp1 path made) path inv).sp.claimedFiles = path :: s.sp.claimedFiles ∧
    (missStart (afterSetup s sp1 path made) path inv).sp.createdDirs = s.sp.createdDirs ∧
    (missStart (afterSetup s sp1 path made) path inv).sp.cacheFile = s.sp.cacheFile ∧
    (missStart (afterSetup s sp1 path made) path inv).sp.dirSize = s.sp.dirSize := by
  obtain ⟨hsp1, _⟩ := bfSetup_ok_fields s.sp sp1 path made h
  subst hsp1
  exact ⟨rfl, rfl, rfl, rfl⟩

/-- the tree in which that function starts when the target was absent: the caller's tree with the directories `made`,
    none of which was there, made -/
theorem missStart_tree {s : KSt} {sp1 : SpecSt} {path : Path} {made : List Path}
    (h : bfSetup s.sp path = .ok (sp1, made)) (habs : s.sp.fs.get path = none) (inv : Inv) :
    (∀ q, s.sp.fs.isDir q = true → (missStart (afterSetup s sp1 path made) path inv).sp.fs.isDir q = true) ∧
    (∀ d ∈ made, (missStart (afterSetup s sp1 path made) path inv).sp.fs.isDir d = true ∧ d ≠ s.sp.cacheFile ∧
      s.sp.fs.get d = none) ∧
    (∀ K : List Path, (∀ d ∈ made, d ∈ K) →
      strip K (missStart (afterSetup s sp1 path made) path inv).sp.fs = strip K s.sp.fs) := by
  obtain ⟨rfl, _, _, _, hdm, _⟩ := bfSetup_ok_fields s.sp sp1 path made h
  obtain ⟨_, _, hpm, _⟩ := bfSetup_ok_made _ _ _ _ h
  have hfs : (missStart (afterSetup s (setupState s.sp path made) path made) path inv).sp.fs = mkdirs s.sp.fs made :=
    (setupState_fs_absent s.sp path made hpm habs).2
  have habsm := dirsToMake_absent s.sp _ path.dropLast made rfl hdm
  obtain ⟨_, g2, g3⟩ := mkdirs_dirsToMake (visible s.sp) s.sp.cacheFile s.sp.inProg _ path.dropLast made s.sp.fs rfl hdm
    (fun a ha => visible_isDir s.sp a ha) habsm
  rw [hfs]
  exact ⟨g3, fun d hd => ⟨g2 d hd, fun e => dirsToMake_not_cf _ _ _ _ _ _ rfl hdm (e ▸ hd), habsm d hd⟩,
    fun K hK => strip_mkdirs K made hK _⟩

theorem bfFinish_cf (sp : SpecSt) (path : Path) (made : List Path) (r : CallRes) :
    (bfFinish sp path made r).2.cacheFile = sp.cacheFile := by
  unfold bfFinish
  cases r with
  | error e => rfl
  | ok j => simp only; split <;> rfl

theorem bfFinish_dirs (sp : SpecSt) (path : Path) (made : List Path) (r : CallRes) (d : Path) (h : d ∈ sp.createdDirs) :
    d ∈ (bfFinish sp path made r).2.createdDirs := by
  unfold bfFinish
  cases r with
  | error e => exact List.mem_append_right _ h
  | ok j => simp only; split <;> exact List.mem_append_right _ h

/-- what ANY first run without set-up failures claims and records, and that the files of the calls that returned
    are there: none of it needs a hypothesis about the targets -/
structure RunClaims (s s2 : KSt) (ops : List Op) : Prop where
  claimed : ∀ p ∈ s.sp.claimedFiles, p ∈ s2.sp.claimedFiles
  dirs : ∀ d ∈ s.sp.createdDirs, d ∈ s2.sp.createdDirs
  cacheFile : s2.sp.cacheFile = s.sp.cacheFile
  dirSize : s2.sp.dirSize = s.sp.dirSize
  okOut : ∀ p ∈ okTL ops, ∃ c m, s2.sp.fs.get p = some (.file c m)
  tcl : ∀ p ∈ targetsDeepL ops, p ∈ s2.sp.claimedFiles ∧ p ≠ s.sp.cacheFile
  claimedBy : ∀ p ∈ s2.sp.claimedFiles, p ∈ s.sp.claimedFiles ∨ p ∈ targetsDeepL ops
  fresh : ∀ p ∈ targetsDeepL ops, p ∉ s.sp.claimedFiles

theorem RunClaims.refl (s : KSt) : RunClaims s s [] :=
  ⟨fun _ h => h, fun _ h => h, rfl, rfl, fun _ hp => (nomatch hp), fun _ hp => (nomatch hp), fun _ h => Or.inl h,
   fun _ hp => (nomatch hp)⟩

theorem RunClaims.congr {s s2 : KSt} {ops ops' : List Op} (h1 : targetsDeepL ops' = targetsDeepL ops)
    (h2 : okTL ops' = okTL ops) (h : RunClaims s s2 ops) : RunClaims s s2 ops' :=
  ⟨h.claimed, h.dirs, h.cacheFile, h.dirSize, by rw [h2]; exact h.okOut, by rw [h1]; exact h.tcl,
   by rw [h1]; exact h.claimedBy, by rw [h1]; exact h.fresh⟩

/-- two runs one after the other: the files written by the first are claimed, so the second keeps them -/
theorem RunClaims.trans {a b c : KSt} {o1 o2 o : List Op} (h1 : RunClaims a b o1) (h2 : RunClaims b c o2)
    (ht : targetsDeepL o = targetsDeepL o1 ++ targetsDeepL o2) (hok : okTL o = okTL o1 ++ okTL o2)
    (hkeep : FirstKeeps b c) : RunClaims a c o := by
  refine ⟨fun p hp => h2.claimed p (h1.claimed p hp), fun d hd => h2.dirs d (h1.dirs d hd),
    h2.cacheFile.trans h1.cacheFile, h2.dirSize.trans h1.dirSize, ?_, ?_, ?_, ?_⟩
  · rw [hok]
    intro p hp
    rcases List.mem_append.mp hp with hp | hp
    · obtain ⟨c', m', hg⟩ := h1.okOut p hp
      exact ⟨c', m', hkeep.files p c' m' hg (h1.tcl p (okTL_mem_targets o1 p hp)).1⟩
    · exact h2.okOut p hp
  · rw [ht]
    intro p hp
    rcases List.mem_append.mp hp with hp | hp
    · exact ⟨h2.claimed p (h1.tcl p hp).1, (h1.tcl p hp).2⟩
    · exact ⟨(h2.tcl p hp).1, by rw [← h1.cacheFile]; exact (h2.tcl p hp).2⟩
  · rw [ht]
    intro p hp
    rcases h2.claimedBy p hp with h | h
    · rcases h1.claimedBy p h with h' | h'
      · exact Or.inl h'
      · exact Or.inr (List.mem_append_left _ h')
    · exact Or.inr (List.mem_append_right _ h)
  · rw [ht]
    intro p hp
    rcases List.mem_append.mp hp with hp | hp
    · exact h1.fresh p hp
    · exact fun hc => h2.fresh p hp (h1.claimed p hc)

theorem FirstRun.claims {prog : Prog} {t : Option Path} {s s2 : KSt} {r : CallRes} {ops : List Op}
    (h : FirstRun prog t s r s2 ops) : noSFL ops = true → RunClaims s s2 ops := by
  induction h with
  | ret v t s => intro _; exact RunClaims.refl s
  | raise e t s => intro _; exact RunClaims.refl s
  | query q k t s v e _ _ ih =>
    intro hok
    rw [noSFL_cons, Bool.and_eq_true] at hok
    exact (ih hok.2).congr (targetsDeepL_cons _ _) (okTL_cons _ _)
  | writeOut b mt k s _ ih => exact ih
  | writeIn b mt k p s _ ih =>
    intro hok
    have := ih hok
    exact ⟨this.claimed, this.dirs, this.cacheFile, this.dirSize, this.okOut, this.tcl, this.claimedBy, this.fresh⟩
  | bfSetupFail path cmp fname args kwargs body k t s e hsetup _ _ => intro hok; exact nomatch hok
  | bfMiss path cmp fname args kwargs body k t s sp1 made rb sb subs r s2 ops s1 s3 hs1 hs3 hf hsetup hout hrest hf1 hkb hf3 hkr _ _ ihb ihk =>
    subst hs1 hs3
    intro hok
    rw [noSFL_cons, Bool.and_eq_true] at hok
    obtain ⟨hsp1, hnc, hncf, _, _, _⟩ := bfSetup_ok_fields s.sp sp1 path made hsetup
    obtain ⟨hpne, _, _, _⟩ := bfSetup_ok_made _ _ _ _ hsetup
    have hb := ihb (noSF_execFileOp _ _ _ _ _ _ _ _ _ hok.1)
    obtain ⟨hcl1, hcd1, hcf1, hds1⟩ := missStart_fields hsetup ⟨fname, some path, args, kwargs⟩
    have hcl3 : (withSp sb (bfFinish sb.sp path made rb).2).sp.claimedFiles = sb.sp.claimedFiles := bfFinish_claimed _ _ _ _
    have hpath_cl : path ∈ sb.sp.claimedFiles := hb.claimed path (by rw [hcl1]; exact List.mem_cons_self ..)
    -- a nested target is fresh where the function starts, where `path` is claimed already: it is not `path`
    have hnested : ∀ p ∈ okTL subs, ∃ c m, (withSp sb (bfFinish sb.sp path made rb).2).sp.fs.get p = some (.file c m) := by
      intro p hp
      obtain ⟨c', m', hg⟩ := hb.okOut p hp
      have hpp : p ≠ path := fun e =>
        hb.fresh p (okTL_mem_targets subs p hp) (by rw [hcl1, e]; exact List.mem_cons_self ..)
      exact ⟨c', m', bfFinish_file_other _ _ _ _ _ _ _ hpp hg⟩
    have hcall : RunClaims s (withSp sb (bfFinish sb.sp path made rb).2)
        [execFileOp path cmp fname args kwargs subs rb (bfFinish sb.sp path made rb).1
          (withSp sb (bfFinish sb.sp path made rb).2)] := by
      refine ⟨?_, ?_, ?_, ?_, ?_, ?_, ?_, ?_⟩
      · intro p hp; rw [hcl3]; exact hb.claimed p (by rw [hcl1]; exact List.mem_cons_of_mem _ hp)
      · intro d hd; exact bfFinish_dirs _ _ _ _ d (hb.dirs d (by rw [hcd1]; exact hd))
      · show (bfFinish _ path made rb).2.cacheFile = _
        rw [bfFinish_cf, hb.cacheFile, hcf1]
      · show (bfFinish _ path made rb).2.dirSize = _
        rw [(bfFinish_keeps _ _ _ _).1, hb.dirSize, hds1]
      · rw [okTL_single]
        cases hfin : (bfFinish sb.sp path made rb).1 with
        | ok j =>
          obtain ⟨c, m, _, _, hfinOk⟩ := bfFinish_ok_inv sb.sp path made rb j hfin
          rw [(okT_badT_execFileOp_ok ..).1]
          intro p hp
          rcases List.mem_append.mp hp with hp | hp
          · exact hnested p hp
          · rw [List.mem_singleton.mp hp]
            refine ⟨c, m, ?_⟩
            show (bfFinish _ path made rb).2.fs.get path = _
            rw [hfinOk]; exact get_set_self _ _ _ hpne
        | error e => rw [(okT_badT_execFileOp_err ..).1]; exact hnested
      · rw [targetsDeepL_single, targetsDeep_execFileOp]
        intro p hp
        rcases List.mem_append.mp hp with hp | hp
        · exact ⟨by rw [hcl3]; exact (hb.tcl p hp).1, by rw [← hcf1]; exact (hb.tcl p hp).2⟩
        · rw [List.mem_singleton.mp hp]
          exact ⟨by rw [hcl3]; exact hpath_cl, hncf⟩
      · rw [targetsDeepL_single, targetsDeep_execFileOp]
        intro p hp
        rw [hcl3] at hp
        rcases hb.claimedBy p hp with h | h
        · rw [hcl1] at h
          rcases List.mem_cons.mp h with rfl | h'
          · exact Or.inr (List.mem_append_right _ (List.mem_singleton.mpr rfl))
          · exact Or.inl h'
        · exact Or.inr (List.mem_append_left _ h)
      · rw [targetsDeepL_single, targetsDeep_execFileOp]
        intro p hp
        rcases List.mem_append.mp hp with hp | hp
        · intro hc; exact hb.fresh p hp (by rw [hcl1]; exact List.mem_cons_of_mem _ hc)
        · rw [List.mem_singleton.mp hp]; exact hnc
    exact hcall.trans (ihk hok.2) (by rw [targetsDeepL_cons, targetsDeepL_single]) (by rw [okTL_cons, okTL_single]) hkr
  | sbDup fname args kwargs body k t s hcl _ _ => intro hok; exact nomatch hok
  | sbMiss fname args kwargs body k t s rb sb subs r s2 ops s1 hs1 hf hcl hout hrest hkb hf3 hkr _ _ ihb ihk =>
    subst hs1
    intro hok
    rw [noSFL_cons, Bool.and_eq_true] at hok
    have hb := ihb (noSF_execSubOp _ _ _ _ _ hok.1)
    have hcall : RunClaims s sb [execSubOp fname args kwargs subs rb] :=
      (show RunClaims s sb subs from
        ⟨hb.claimed, hb.dirs, hb.cacheFile, hb.dirSize, hb.okOut, hb.tcl, hb.claimedBy, hb.fresh⟩).congr
        (by rw [targetsDeepL_single, targetsDeep_execSubOp]) (by rw [okTL_single, (okT_badT_execSubOp ..).1])
    exact hcall.trans (ihk hok.2) (by rw [targetsDeepL_cons, targetsDeepL_single]) (by rw [okTL_cons, okTL_single]) hkr

theorem run_claims_targets (prog : Prog) : ∀ (t : Option Path) (s : KSt), s.old.roots = [] → s.sp.failFiles = [] →
    s.sp.failSubs = [] → noSFL (Impl.run prog t s).2.2 = true →
    ∀ p ∈ targetsDeepL (Impl.run prog t s).2.2, p ∈ (Impl.run prog t s).2.1.sp.claimedFiles :=
  fun t s h0 h1 h2 hok p hp => (((firstRun prog t s ⟨h0, h1, h2⟩).claims hok).tcl p hp).1

structure FirstFactsDeep (s s2 : KSt) (ops : List Op) : Prop where
  outs : ∀ p ∈ targetsDeepL ops, (∃ c m, s2.sp.fs.get p = some (.file c m)) ∧ p ∈ s2.sp.claimedFiles ∧ p ≠ s.sp.cacheFile
  claimed : ∀ p ∈ s2.sp.claimedFiles, p ∈ s.sp.claimedFiles ∨ p ∈ targetsDeepL ops
  fresh : ∀ p ∈ targetsDeepL ops, p ∉ s.sp.claimedFiles

theorem nested_first_facts (prog : Prog) : ∀ (t : Option Path) (s : KSt), s.old.roots = [] → s.sp.failFiles = [] →
    s.sp.failSubs = [] → okDeepL (Impl.run prog t s).2.2 = true →
    FirstFactsDeep s (Impl.run prog t s).2.1 (Impl.run prog t s).2.2 :=
  fun t s h0 h1 h2 hok =>
    have c := (firstRun prog t s ⟨h0, h1, h2⟩).claims (okDeepL_noSFL _ hok)
    ⟨fun p hp => ⟨c.okOut p (by rw [okTL_of_okDeepL _ hok]; exact hp), c.tcl p hp⟩, c.claimedBy, c.fresh⟩

theorem FirstRun.stripKept {prog : Prog} {t : Option Path} {s s2 : KSt} {r : CallRes} {ops : List Op}
    (h : FirstRun prog t s r s2 ops) : okDeepL ops = true →
    ∀ K : List Path, (∀ p ∈ s2.sp.claimedFiles, p ∈ K) → (∀ d ∈ s2.sp.createdDirs, d ∈ K) →
      strip K s2.sp.fs = strip K s.sp.fs := by
  induction h with
  | ret v t s => intro _ _ _ _; rfl
  | raise e t s => intro _ _ _ _; rfl
  | query q k t s v e _ _ ih => intro hok; rw [okDeepL_cons, Bool.and_eq_true] at hok; exact ih hok.2
  | writeOut b mt k s _ ih => exact ih
  | writeIn b mt k p s _ ih => exact ih
  | bfSetupFail path cmp fname args kwargs body k t s e hsetup _ _ => intro hok; exact nomatch hok
  | bfMiss path cmp fname args kwargs body k t s sp1 made rb sb subs r s2 ops s1 s3 hs1 hs3 hf hsetup hout hrest hf1 hkb hf3 hkr hbr hkr' ihb ihk =>
    subst hs1 hs3
    intro hok K hK1 hK2
    rw [okDeepL_cons, Bool.and_eq_true] at hok
    obtain ⟨⟨j, hj⟩, hoksubs⟩ := okDeep_execFileOp _ _ _ _ _ _ _ _ _ hok.1
    obtain ⟨hsp1, _, _, _, _, _⟩ := bfSetup_ok_fields s.sp sp1 path made hsetup
    obtain ⟨c, m, _, _, hfinOk⟩ := bfFinish_ok_inv sb.sp path made rb j hj
    have cb := hbr.claims (okDeepL_noSFL _ hoksubs)
    have cr := hkr'.claims (okDeepL_noSFL _ hok.2)
    have hK1' : ∀ p ∈ sb.sp.claimedFiles, p ∈ K := fun p hp =>
      hK1 p (cr.claimed p (by show p ∈ (bfFinish _ path made rb).2.claimedFiles; rw [bfFinish_claimed]; exact hp))
    have hK2' : ∀ d ∈ made ++ sb.sp.createdDirs, d ∈ K := fun d hd =>
      hK2 d (cr.dirs d (by show d ∈ (bfFinish _ path made rb).2.createdDirs; rw [hfinOk]; exact hd))
    have hpK : path ∈ K :=
      hK1' path (cb.claimed path (by show path ∈ sp1.claimedFiles; rw [hsp1]; exact List.mem_cons_self ..))
    rw [ihk hok.2 K hK1 hK2]
    show strip K (bfFinish _ path made rb).2.fs = _
    rw [hfinOk]
    show strip K (sb.sp.fs.set path (.file c m)) = _
    rw [strip_set K _ path _ hpK, ihb hoksubs K hK1' (fun d hd => hK2' d (List.mem_append_right _ hd))]
    show strip K sp1.fs = _
    rw [hsp1, strip_setupState K s.sp path made hpK (fun d hd => hK2' d (List.mem_append_left _ hd))]
  | sbDup fname args kwargs body k t s hcl _ _ => intro hok; exact nomatch hok
  | sbMiss fname args kwargs body k t s rb sb subs r s2 ops s1 hs1 hf hcl hout hrest hkb hf3 hkr hbr hkr' ihb ihk =>
    subst hs1
    intro hok K hK1 hK2
    rw [okDeepL_cons, Bool.and_eq_true] at hok
    have cr := hkr'.claims (okDeepL_noSFL _ hok.2)
    rw [ihk hok.2 K hK1 hK2]
    exact ihb (okDeep_execSubOp _ _ _ _ _ hok.1).2 K (fun p hp => hK1 p (cr.claimed p hp)) (fun d hd => hK2 d (cr.dirs d hd))

/-- what a first run in which every call (at any depth) succeeded does to the tree: it only inserts entries under
    its own keys (targets and directories it made), and those sets only grow -/
theorem nested_ok_run (prog : Prog) : ∀ (t : Option Path) (s : KSt), s.old.roots = [] → s.sp.failFiles = [] →
    s.sp.failSubs = [] → okDeepL (Impl.run prog t s).2.2 = true → OkRun s (Impl.run prog t s).2.1 :=
  fun t s h0 h1 h2 hok =>
    have h := firstRun prog t s ⟨h0, h1, h2⟩
    have c := h.claims (okDeepL_noSFL _ hok)
    ⟨c.claimed, c.dirs, h.stripKept hok, c.cacheFile, c.dirSize⟩

/-- the subbuild keys of the records `ops` of a run from `s` to `s2`: free in `s`, claimed in `s2`, pairwise different -/
structure RunKeys (s s2 : KSt) (ops : List Op) : Prop where
  fresh : ∀ k ∈ subKeysDeepL ops, s.sp.claimedSubs.any (heq k) = false
  claimed : ∀ k ∈ subKeysDeepL ops, s2.sp.claimedSubs.any (heq k) = true
  pw : (subKeysDeepL ops).Pairwise KeyNe
  mono : ∀ k, s.sp.claimedSubs.any (heq k) = true → s2.sp.claimedSubs.any (heq k) = true

theorem RunKeys.nil (s : KSt) : RunKeys s s [] :=
  ⟨fun _ hk => (nomatch hk), fun _ hk => (nomatch hk), List.Pairwise.nil, fun _ h => h⟩

theorem RunKeys.congr {s s2 : KSt} {ops ops' : List Op} (h : subKeysDeepL ops' = subKeysDeepL ops) (hr : RunKeys s s2 ops) :
    RunKeys s s2 ops' :=
  ⟨by rw [h]; exact hr.fresh, by rw [h]; exact hr.claimed, by rw [h]; exact hr.pw, hr.mono⟩

theorem RunKeys.trans {a b c : KSt} {o1 o2 o : List Op} (h1 : RunKeys a b o1) (h2 : RunKeys b c o2)
    (ho : subKeysDeepL o = subKeysDeepL o1 ++ subKeysDeepL o2) : RunKeys a c o := by
  refine ⟨?_, ?_, ?_, fun k hk => h2.mono k (h1.mono k hk)⟩ <;> rw [ho]
  · intro k hk
    rcases List.mem_append.mp hk with hk | hk
    · exact h1.fresh k hk
    · cases hc : a.sp.claimedSubs.any (heq k) with
      | false => rfl
      | true => have := h1.mono k hc; rw [h2.fresh k hk] at this; cases this
  · intro k hk
    rcases List.mem_append.mp hk with hk | hk
    · exact h2.mono k (h1.claimed k hk)
    · exact h2.claimed k hk
  · rw [List.pairwise_append]
    refine ⟨h1.pw, h2.pw, ?_⟩
    intro x hx y hy
    -- `y` is fresh with respect to the claims after the first run, among which there is a key `heq` to `x`
    have hxc := h1.claimed x hx
    have hyf := h2.fresh y hy
    obtain ⟨c0, hc0, hxc0⟩ := List.any_eq_true.mp hxc
    have hyc0 : heq y c0 = false := by
      cases hh : heq y c0 with
      | false => rfl
      | true => have := List.any_eq_true.mpr ⟨c0, hc0, hh⟩; rw [hyf] at this; cases this
    constructor
    · cases hh : heq x y with
      | false => rfl
      | true =>
        have h1' : heq y x = true := by rw [heq_symm]; exact hh
        have := heq_trans y x c0 h1' hxc0
        rw [hyc0] at this; cases this
    · cases hh : heq y x with
      | false => rfl
      | true =>
        have := heq_trans y x c0 hh hxc0
        rw [hyc0] at this; cases this

/-- the run of a `subbuild`'s function together with the claim of its key before it, as a run from the state in
    which the key was still free -/
theorem RunKeys.claim {s sb : KSt} {subs : List Op} {key : H} {inv : Inv} {x : Op}
    (hb : RunKeys (Impl.subStart (subClaim s key) inv) sb subs) (hcl : s.sp.claimedSubs.any (heq key) = false)
    (hx : keysOfL (registered x) = subKeysDeepL subs ++ [key]) : RunKeys s sb [x] := by
  have hcs1 : (Impl.subStart (subClaim s key) inv).sp.claimedSubs = key :: s.sp.claimedSubs := rfl
  have hfresh : ∀ k ∈ subKeysDeepL subs, heq k key = false ∧ s.sp.claimedSubs.any (heq k) = false := by
    intro k hk
    have := hb.fresh k hk
    rw [hcs1, List.any_cons, Bool.or_eq_false_iff] at this
    exact this
  refine ⟨?_, ?_, ?_, ?_⟩ <;> try rw [subKeysDeepL_single, hx]
  · intro k hk
    rcases List.mem_append.mp hk with hk | hk
    · exact (hfresh k hk).2
    · rw [List.mem_singleton.mp hk]; exact hcl
  · intro k hk
    rcases List.mem_append.mp hk with hk | hk
    · exact hb.claimed k hk
    · rw [List.mem_singleton.mp hk]
      exact hb.mono _ (by rw [hcs1, List.any_cons, heq_refl]; rfl)
  · rw [List.pairwise_append]
    refine ⟨hb.pw, List.pairwise_singleton .., ?_⟩
    intro k hk y hy
    rw [List.mem_singleton.mp hy]
    exact ⟨(hfresh k hk).1, by rw [heq_symm]; exact (hfresh k hk).1⟩
  · intro k hk
    exact hb.mono k (by rw [hcs1, List.any_cons, hk]; exact Bool.or_true _)

theorem bfFinish_claimedSubs (sp : SpecSt) (path : Path) (made : List Path) (r : CallRes) :
    (bfFinish sp path made r).2.claimedSubs = sp.claimedSubs := by
  unfold bfFinish
  cases r with
  | error e => rfl
  | ok j => simp only; split <;> rfl

/-- the subbuild keys a first run claims are pairwise different, also when calls raised: a key is claimed before
    its function starts, and a claimed key is refused -/
theorem FirstRun.keys {prog : Prog} {t : Option Path} {s s2 : KSt} {r : CallRes} {ops : List Op}
    (h : FirstRun prog t s r s2 ops) : noSFL ops = true → RunKeys s s2 ops := by
  induction h with
  | ret v t s => intro _; exact RunKeys.nil s
  | raise e t s => intro _; exact RunKeys.nil s
  | query q k t s v e _ _ ih =>
    intro hok
    rw [noSFL_cons, Bool.and_eq_true] at hok
    exact (ih hok.2).congr (by rw [subKeysDeepL_cons, keys_simple]; rfl)
  | writeOut b mt k s _ ih => exact ih
  | writeIn b mt k p s _ ih => intro hok; have := ih hok; exact ⟨this.fresh, this.claimed, this.pw, this.mono⟩
  | bfSetupFail path cmp fname args kwargs body k t s e hsetup _ _ => intro hok; exact nomatch hok
  | bfMiss path cmp fname args kwargs body k t s sp1 made rb sb subs r s2 ops s1 s3 hs1 hs3 hf hsetup hout hrest hf1 hkb hf3 hkr _ _ ihb ihk =>
    subst hs1 hs3
    intro hok
    rw [noSFL_cons, Bool.and_eq_true] at hok
    have hb := ihb (noSF_execFileOp _ _ _ _ _ _ _ _ _ hok.1)
    have hkk := ihk hok.2
    obtain ⟨hsp1, _, _, _, _, _⟩ := bfSetup_ok_fields s.sp sp1 path made hsetup
    have hcs1 : (missStart (afterSetup s sp1 path made) path ⟨fname, some path, args, kwargs⟩).sp.claimedSubs = s.sp.claimedSubs := by
      show sp1.claimedSubs = _; rw [hsp1]; rfl
    have hcs3 := bfFinish_claimedSubs sb.sp path made rb
    exact RunKeys.trans ⟨by rw [← hcs1]; exact hb.fresh, hb.claimed, hb.pw, by rw [← hcs1]; exact hb.mono⟩
      ⟨by rw [← hcs3]; exact hkk.fresh, hkk.claimed, hkk.pw, by rw [← hcs3]; exact hkk.mono⟩
      (by rw [subKeysDeepL_cons, keys_execFileOp])
  | sbDup fname args kwargs body k t s hcl _ _ => intro hok; exact nomatch hok
  | sbMiss fname args kwargs body k t s rb sb subs r s2 ops s1 hs1 hf hcl hout hrest hkb hf3 hkr _ _ ihb ihk =>
    subst hs1
    intro hok
    rw [noSFL_cons, Bool.and_eq_true] at hok
    exact ((ihb (noSF_execSubOp _ _ _ _ _ hok.1)).claim hcl (keys_execSubOp ..)).trans (ihk hok.2)
      (by rw [subKeysDeepL_cons, subKeysDeepL_single])

theorem run_keysF (prog : Prog) : ∀ (t : Option Path) (s : KSt), s.old.roots = [] → s.sp.failFiles = [] →
    s.sp.failSubs = [] → noSFL (Impl.run prog t s).2.2 = true →
    RunKeys s (Impl.run prog t s).2.1 (Impl.run prog t s).2.2 :=
  fun t s h0 h1 h2 => (firstRun prog t s ⟨h0, h1, h2⟩).keys

theorem run_keys (prog : Prog) : ∀ (t : Option Path) (s : KSt), s.old.roots = [] → s.sp.failFiles = [] →
    s.sp.failSubs = [] → okDeepL (Impl.run prog t s).2.2 = true →
    RunKeys s (Impl.run prog t s).2.1 (Impl.run prog t s).2.2 :=
  fun t s h0 h1 h2 hok => run_keysF prog t s h0 h1 h2 (okDeepL_noSFL _ hok)

end FB

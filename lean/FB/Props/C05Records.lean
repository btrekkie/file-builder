/-
  C05 — record forests, without reference to any run.  `Cache.write` registers the records of a forest that got
  past their set-up, children before parents; the targets and keys of the registered records (`registeredL_paths`,
  `subKeysDeepL`, `okT`, `badT`) decide what `read_immutable` returns for a call of the next build (`cachedIn_allF`)
  and what the cache file lists as outputs (`outputs_eq_okT`).
-/
import FB.Props.C05NestedFail
import FB.Props.C05Flat
import FB.Lemmas.Hashable
namespace FB
open FS Spec Impl

def pathOf : Op → Option Path
  | .buildFile p _ _ _ _ _ _ _ _ _ _ => some p
  | _ => none

def keyOf : Op → Option H
  | .subbuild f a k _ _ _ _ => some (subKey f a k)
  | _ => none

def subKeysDeepL (ops : List Op) : List H := (registeredL ops).filterMap keyOf

mutual
theorem registered_paths : (o : Op) → (registered o).filterMap pathOf = targetsDeep o
  | .simple _ _ _ _ => rfl
  | .buildFile p c f a k subs r cr raised sf ct => by
    show (registeredL subs ++ _).filterMap pathOf = targetsDeepL subs ++ _
    rw [List.filterMap_append, registeredL_paths subs]
    cases sf <;> rfl
  | .subbuild f a k subs r raised sf => by
    show (registeredL subs ++ _).filterMap pathOf = targetsDeepL subs
    rw [List.filterMap_append, registeredL_paths subs]
    cases sf <;> exact List.append_nil _
theorem registeredL_paths : (os : List Op) → (registeredL os).filterMap pathOf = targetsDeepL os
  | [] => rfl
  | o :: os => by
    show (registered o ++ registeredL os).filterMap pathOf = targetsDeep o ++ targetsDeepL os
    rw [List.filterMap_append, registered_paths o, registeredL_paths os]
end

def okTop : Op → Bool
  | .buildFile _ _ _ _ _ _ _ _ raised sf _ => !raised && !sf
  | .subbuild _ _ _ _ _ raised sf => !raised && !sf
  | .simple _ _ _ _ => true

theorem mem_registeredL_top (ops : List Op) (o : Op) (ho : o ∈ ops) (hc : isComplexRegistered o = true) :
    o ∈ registeredL ops := by
  induction ops with
  | nil => cases ho
  | cons x r ih =>
    rw [registeredL_cons, List.mem_append]
    rcases List.mem_cons.mp ho with rfl | ho'
    · left
      cases o with
      | simple _ _ _ _ => exact nomatch hc
      | buildFile p c f a k subs rr cr raised sf ct =>
        cases sf with
        | true => exact nomatch hc
        | false => exact List.mem_append_right _ (List.mem_singleton.mpr rfl)
      | subbuild f a k subs rr raised sf =>
        cases sf with
        | true => exact nomatch hc
        | false => exact List.mem_append_right _ (List.mem_singleton.mpr rfl)
    · right; exact ih ho'

theorem find_unique {α : Type} (l : List α) (pred : α → Bool) (x : α) (hx : x ∈ l) (hp : pred x = true)
    (hu : ∀ y ∈ l, pred y = true → y = x) : l.find? pred = some x := by
  cases hf : l.find? pred with
  | none => exact absurd hp (by simpa using List.find?_eq_none.mp hf x hx)
  | some y =>
    have hy := List.mem_of_find?_eq_some hf
    have hpy := List.find?_some hf
    rw [hu y hy hpy]

theorem filterMap_unique {α β : Type} (f : α → Option β) (l : List α) (h : (l.filterMap f).Pairwise (· ≠ ·))
    (x y : α) (hx : x ∈ l) (hy : y ∈ l) (b : β) (hfx : f x = some b) (hfy : f y = some b) : x = y := by
  induction l with
  | nil => cases hx
  | cons a r ih =>
    have hr : (r.filterMap f).Pairwise (· ≠ ·) := by
      cases hfa : f a with
      | none => simpa [List.filterMap_cons, hfa] using h
      | some c => rw [List.filterMap_cons, hfa] at h; exact (List.pairwise_cons.mp h).2
    rcases List.mem_cons.mp hx with rfl | hx'
    · rcases List.mem_cons.mp hy with rfl | hy'
      · rfl
      · exfalso
        rw [List.filterMap_cons, hfx] at h
        have := (List.pairwise_cons.mp h).1 b (List.mem_filterMap.mpr ⟨y, hy', hfy⟩)
        exact this rfl
    · rcases List.mem_cons.mp hy with rfl | hy'
      · exfalso
        rw [List.filterMap_cons, hfy] at h
        have := (List.pairwise_cons.mp h).1 b (List.mem_filterMap.mpr ⟨x, hx', hfx⟩)
        exact this rfl
      · exact ih hr hx' hy'

def KeyNe (x y : H) : Prop := heq x y = false ∧ heq y x = false

/-- the `heq` analogue of `filterMap_unique`: where the keys are pairwise different, different elements have keys
    that are not `heq` -/
theorem keyOf_unique : ∀ (l : List Op), (l.filterMap keyOf).Pairwise KeyNe →
    ∀ x y : Op, x ∈ l → y ∈ l → x ≠ y → ∀ kx ky, keyOf x = some kx → keyOf y = some ky → heq kx ky = false := by
  intro l
  induction l with
  | nil => intro _ x _ hx; cases hx
  | cons a0 r0 ih =>
    intro hpw x y hx hy hxy kx ky hkx hky
    have hr : (r0.filterMap keyOf).Pairwise KeyNe := by
      cases hfa : keyOf a0 with
      | none => simpa [List.filterMap_cons, hfa] using hpw
      | some c => rw [List.filterMap_cons, hfa] at hpw; exact (List.pairwise_cons.mp hpw).2
    rcases List.mem_cons.mp hx with rfl | hx'
    · rcases List.mem_cons.mp hy with rfl | hy'
      · exact absurd rfl hxy
      · rw [List.filterMap_cons, hkx] at hpw
        exact ((List.pairwise_cons.mp hpw).1 ky (List.mem_filterMap.mpr ⟨y, hy', hky⟩)).1
    · rcases List.mem_cons.mp hy with rfl | hy'
      · rw [List.filterMap_cons, hky] at hpw
        exact ((List.pairwise_cons.mp hpw).1 kx (List.mem_filterMap.mpr ⟨x, hx', hkx⟩)).2
      · exact ih hr x y hx' hy' hxy kx ky hkx hky

theorem targetsDeepL_append (a b : List Op) : targetsDeepL (a ++ b) = targetsDeepL a ++ targetsDeepL b := by
  induction a with
  | nil => simp [targetsDeepL]
  | cons x r ih => simp [targetsDeepL, ih]

def keysOfL (l : List Op) : List H := l.filterMap keyOf

theorem subKeysDeepL_cons (o : Op) (os : List Op) : subKeysDeepL (o :: os) = keysOfL (registered o) ++ subKeysDeepL os :=
  List.filterMap_append ..

theorem subKeysDeepL_single (o : Op) : subKeysDeepL [o] = keysOfL (registered o) := by
  rw [subKeysDeepL_cons]; exact List.append_nil _

theorem keys_simple (q : Query) (v : Json) (e : Option OSErr) (a : UAns) : keysOfL (registered (.simple q v e a)) = [] := rfl

theorem keys_execFileOp (path : Path) (cmp : Cmp) (fname : String) (args kwargs : Json) (subs : List Op)
    (rb r' : CallRes) (s3 : KSt) :
    keysOfL (registered (execFileOp path cmp fname args kwargs subs rb r' s3)) = subKeysDeepL subs := by
  unfold execFileOp
  cases r' <;> exact (List.filterMap_append ..).trans (List.append_nil _)

theorem keys_execSubOp (fname : String) (args kwargs : Json) (subs : List Op) (r : CallRes) :
    keysOfL (registered (execSubOp fname args kwargs subs r)) = subKeysDeepL subs ++ [subKey fname args kwargs] := by
  cases r <;> exact List.filterMap_append ..

mutual
/-- the targets of the `build_file` calls that returned (the outputs the cache file lists) -/
def okT : Op → List Path
  | .simple _ _ _ _ => []
  | .buildFile p _ _ _ _ subs _ _ raised sf _ => okTL subs ++ (if sf || raised then [] else [p])
  | .subbuild _ _ _ subs _ _ _ => okTL subs
def okTL : List Op → List Path
  | [] => []
  | o :: os => okT o ++ okTL os
end

mutual
/-- the targets of the `build_file` calls that raised -/
def badT : Op → List Path
  | .simple _ _ _ _ => []
  | .buildFile p _ _ _ _ subs _ _ raised sf _ => badTL subs ++ (if !sf && raised then [p] else [])
  | .subbuild _ _ _ subs _ _ _ => badTL subs
def badTL : List Op → List Path
  | [] => []
  | o :: os => badT o ++ badTL os
end

theorem okTL_cons (o : Op) (os : List Op) : okTL (o :: os) = okT o ++ okTL os := by simp [okTL]
theorem badTL_cons (o : Op) (os : List Op) : badTL (o :: os) = badT o ++ badTL os := by simp [badTL]

theorem okT_badT_execFileOp_ok (path : Path) (cmp : Cmp) (fname : String) (args kwargs : Json) (subs : List Op)
    (rb : CallRes) (j : Json) (s3 : KSt) :
    okT (execFileOp path cmp fname args kwargs subs rb (.ok j) s3) = okTL subs ++ [path] ∧
    badT (execFileOp path cmp fname args kwargs subs rb (.ok j) s3) = badTL subs := by
  unfold execFileOp; simp [okT, badT]

theorem okT_badT_execFileOp_err (path : Path) (cmp : Cmp) (fname : String) (args kwargs : Json) (subs : List Op)
    (rb : CallRes) (e : Exc) (s3 : KSt) :
    okT (execFileOp path cmp fname args kwargs subs rb (.error e) s3) = okTL subs ∧
    badT (execFileOp path cmp fname args kwargs subs rb (.error e) s3) = badTL subs ++ [path] := by
  unfold execFileOp; simp [okT, badT]

theorem okT_badT_execSubOp (fname : String) (args kwargs : Json) (subs : List Op) (r : CallRes) :
    okT (execSubOp fname args kwargs subs r) = okTL subs ∧ badT (execSubOp fname args kwargs subs r) = badTL subs := by
  cases r <;> simp [execSubOp, okT, badT]

mutual
theorem targets_of_split : (o : Op) → ∀ p, (p ∈ okT o ∨ p ∈ badT o) → p ∈ targetsDeep o
  | .simple _ _ _ _, p, h => by simp [okT, badT] at h
  | .buildFile q _ _ _ _ subs _ _ raised sf _, p, h => by
    simp only [okT, badT, targetsDeep, List.mem_append] at h ⊢
    rcases h with (h | h) | (h | h)
    · exact Or.inl (targetsL_of_split subs p (Or.inl h))
    · right; cases sf <;> cases raised <;> simp_all
    · exact Or.inl (targetsL_of_split subs p (Or.inr h))
    · right; cases sf <;> cases raised <;> simp_all
  | .subbuild _ _ _ subs _ _ _, p, h => by
    simp only [okT, badT, targetsDeep] at h ⊢
    exact targetsL_of_split subs p h
theorem targetsL_of_split : (os : List Op) → ∀ p, (p ∈ okTL os ∨ p ∈ badTL os) → p ∈ targetsDeepL os
  | [], p, h => by simp [okTL, badTL] at h
  | o :: os, p, h => by
    simp only [okTL, badTL, targetsDeepL, List.mem_append] at h ⊢
    rcases h with (h | h) | (h | h)
    · exact Or.inl (targets_of_split o p (Or.inl h))
    · exact Or.inr (targetsL_of_split os p (Or.inl h))
    · exact Or.inl (targets_of_split o p (Or.inr h))
    · exact Or.inr (targetsL_of_split os p (Or.inr h))
end

theorem targetsDeepL_single (o : Op) : targetsDeepL [o] = targetsDeep o := by simp [targetsDeepL]
theorem okTL_single (o : Op) : okTL [o] = okT o := by simp [okTL]
theorem badTL_single (o : Op) : badTL [o] = badT o := by simp [badTL]

theorem okTL_mem_targets (ops : List Op) (p : Path) (h : p ∈ okTL ops) : p ∈ targetsDeepL ops := targetsL_of_split ops p (Or.inl h)

mutual
theorem targets_split : (o : Op) → ∀ p ∈ targetsDeep o, p ∈ okT o ∨ p ∈ badT o
  | .simple _ _ _ _, p, h => by simp [targetsDeep] at h
  | .buildFile q _ _ _ _ subs _ _ raised sf _, p, h => by
    simp only [okT, badT, targetsDeep, List.mem_append] at h ⊢
    rcases h with h | h
    · rcases targetsL_split subs p h with h' | h'
      · exact Or.inl (Or.inl h')
      · exact Or.inr (Or.inl h')
    · cases sf <;> cases raised <;> simp_all
  | .subbuild _ _ _ subs _ _ _, p, h => by
    simp only [okT, badT, targetsDeep] at h ⊢
    exact targetsL_split subs p h
theorem targetsL_split : (os : List Op) → ∀ p ∈ targetsDeepL os, p ∈ okTL os ∨ p ∈ badTL os
  | [], p, h => by simp [targetsDeepL] at h
  | o :: os, p, h => by
    simp only [okTL, badTL, targetsDeepL, List.mem_append] at h ⊢
    rcases h with h | h
    · rcases targets_split o p h with h' | h'
      · exact Or.inl (Or.inl h')
      · exact Or.inr (Or.inl h')
    · rcases targetsL_split os p h with h' | h'
      · exact Or.inl (Or.inr h')
      · exact Or.inr (Or.inr h')
end

theorem registeredL_filterF (ops : List Op) (h : noSFL ops = true) :
    registeredL (ops.filter isComplexRegistered) = registeredL ops := by
  induction ops with
  | nil => rfl
  | cons o r ih =>
    rw [noSFL_cons, Bool.and_eq_true] at h
    have ihr := ih h.2
    cases o with
    | simple _ _ _ _ => exact ihr
    | buildFile p c f a k subs rr cr raised sf ct =>
      have h1 : (!sf && noSFL subs) = true := h.1
      rw [Bool.and_eq_true, Bool.not_eq_true'] at h1
      rw [h1.1]
      show registeredL (_ :: r.filter isComplexRegistered) = _
      rw [registeredL_cons, registeredL_cons, ihr]
    | subbuild f a k subs rr raised sf =>
      have h1 : (!sf && noSFL subs) = true := h.1
      rw [Bool.and_eq_true, Bool.not_eq_true'] at h1
      rw [h1.1]
      show registeredL (_ :: r.filter isComplexRegistered) = _
      rw [registeredL_cons, registeredL_cons, ihr]

mutual
theorem registered_sf : (o : Op) → ∀ x ∈ registered o, isComplexRegistered x = true
  | .simple _ _ _ _, x, hx => nomatch hx
  | .buildFile p c f a k subs r cr raised sf ct, x, hx => by
    rw [registered_buildFile, List.mem_append] at hx
    rcases hx with hx | hx
    · exact registeredL_sf subs x hx
    · cases sf with
      | true => exact nomatch hx
      | false => rw [List.mem_singleton.mp hx]; rfl
  | .subbuild f a k subs r raised sf, x, hx => by
    rw [registered_subbuild, List.mem_append] at hx
    rcases hx with hx | hx
    · exact registeredL_sf subs x hx
    · cases sf with
      | true => exact nomatch hx
      | false => rw [List.mem_singleton.mp hx]; rfl
theorem registeredL_sf : (os : List Op) → ∀ x ∈ registeredL os, isComplexRegistered x = true
  | [], x, hx => nomatch hx
  | o :: os, x, hx => by
    rw [registeredL_cons, List.mem_append] at hx
    rcases hx with hx | hx
    · exact registered_sf o x hx
    · exact registeredL_sf os x hx
end

/-- **the record a first build writes returns every registered record — at any depth, raised or not — under its
    key**: targets are pairwise different at every depth, subbuild keys pairwise unequal at every depth -/
theorem cachedIn_allF (ops : List Op) (hok : noSFL ops = true)
    (hnd : (targetsDeepL ops).Pairwise (· ≠ ·))
    (hkeys : (subKeysDeepL ops).Pairwise (fun x y => heq x y = false ∧ heq y x = false))
    (rec : CacheRec) (hroots : rec.roots = ops.filter isComplexRegistered) :
    ∀ o ∈ registeredL ops, cachedIn rec o := by
  intro o hmem
  have hreg : registeredL rec.roots = registeredL ops := by rw [hroots]; exact registeredL_filterF ops hok
  have hsf := registeredL_sf ops o hmem
  cases o with
  | simple _ _ _ _ => trivial
  | buildFile p c f a k subs r cr raised sf ct =>
    simp only [isComplexRegistered, Bool.not_eq_true'] at hsf
    subst hsf
    simp only [cachedIn, CacheRec.getFile, hreg]
    apply find_unique
    · exact List.mem_reverse.mpr hmem
    · simp [Op.isFileAt]
    · intro y hy hp
      have hy' := List.mem_reverse.mp hy
      cases y with
      | simple _ _ _ _ => simp [Op.isFileAt] at hp
      | subbuild _ _ _ _ _ _ _ => simp [Op.isFileAt] at hp
      | buildFile p' c' f' a' k' subs' r' cr' raised' sf' ct' =>
        simp only [Op.isFileAt, decide_eq_true_eq] at hp
        subst hp
        have hsf' := registeredL_sf ops _ hy'
        simp only [isComplexRegistered, Bool.not_eq_true'] at hsf'
        subst hsf'
        exact filterMap_unique pathOf (registeredL ops) (by rw [registeredL_paths]; exact hnd) _ _ hy' hmem p' rfl rfl
  | subbuild f a k subs r raised sf =>
    simp only [isComplexRegistered, Bool.not_eq_true'] at hsf
    subst hsf
    simp only [cachedIn, CacheRec.getSub, hreg]
    apply find_unique
    · exact List.mem_reverse.mpr hmem
    · simp only [Op.isSubWith]; exact heq_refl _
    · intro y hy hp
      have hy' := List.mem_reverse.mp hy
      cases y with
      | simple _ _ _ _ => simp [Op.isSubWith] at hp
      | buildFile _ _ _ _ _ _ _ _ _ _ _ => simp [Op.isSubWith] at hp
      | subbuild f' a' k' subs' r' raised' sf' =>
        simp only [Op.isSubWith] at hp
        by_contra hne
        have := keyOf_unique (registeredL ops) hkeys _ _ hy' hmem hne _ _ rfl rfl
        rw [hp] at this; cases this

mutual
theorem registered_okT : (o : Op) → noSF o = true → (registered o).filterMap (fun
    | .buildFile p _ _ _ _ _ _ _ false _ _ => some p
    | _ => none) = okT o
  | .simple _ _ _ _, _ => rfl
  | .buildFile p c f a k subs r cr raised sf ct, h => by
    have h' : (!sf && noSFL subs) = true := h
    rw [Bool.and_eq_true, Bool.not_eq_true'] at h'
    obtain ⟨rfl, h2⟩ := h'
    show (registeredL subs ++ [_]).filterMap _ = okTL subs ++ _
    rw [List.filterMap_append, registeredL_okT subs h2]
    cases raised <;> rfl
  | .subbuild f a k subs r raised sf, h => by
    have h' : (!sf && noSFL subs) = true := h
    rw [Bool.and_eq_true, Bool.not_eq_true'] at h'
    obtain ⟨rfl, h2⟩ := h'
    show (registeredL subs ++ [_]).filterMap _ = okTL subs
    rw [List.filterMap_append, registeredL_okT subs h2]
    exact List.append_nil _
theorem registeredL_okT : (os : List Op) → noSFL os = true → (registeredL os).filterMap (fun
    | .buildFile p _ _ _ _ _ _ _ false _ _ => some p
    | _ => none) = okTL os
  | [], _ => rfl
  | o :: os, h => by
    rw [noSFL_cons, Bool.and_eq_true] at h
    show (registered o ++ registeredL os).filterMap _ = okT o ++ okTL os
    rw [List.filterMap_append, registered_okT o h.1, registeredL_okT os h.2]
end

theorem outputs_eq_okT (n : String) (ops : List Op) (hok : noSFL ops = true) :
    CacheRec.outputs { buildName := n, roots := ops.filter isComplexRegistered } = okTL ops := by
  unfold CacheRec.outputs
  simp only
  rw [registeredL_filterF ops hok]
  exact registeredL_okT ops hok

theorem okTop_of_okDeep (o : Op) (h : okDeep o = true) : okTop o = true := by
  cases o with
  | simple _ _ _ _ => rfl
  | buildFile p c f a k subs r cr raised sf ct =>
    simp only [okDeep, Bool.and_eq_true] at h; simp only [okTop, Bool.and_eq_true]; exact h.1
  | subbuild f a k subs r raised sf =>
    simp only [okDeep, Bool.and_eq_true] at h; simp only [okTop, Bool.and_eq_true]; exact h.1

theorem okDeep_of_mem (ops : List Op) (h : okDeepL ops = true) : ∀ o ∈ ops, okDeep o = true := by
  induction ops with
  | nil => intro o ho; cases ho
  | cons x r ih =>
    simp only [okDeepL, Bool.and_eq_true] at h
    intro o ho
    rcases List.mem_cons.mp ho with rfl | ho
    · exact h.1
    · exact ih h.2 o ho

mutual
theorem okT_of_okDeep : (o : Op) → okDeep o = true → okT o = targetsDeep o
  | .simple _ _ _ _, _ => rfl
  | .buildFile p _ _ _ _ subs _ _ raised sf _, h => by
    have h' : (!raised && !sf && okDeepL subs) = true := h
    rw [Bool.and_eq_true, Bool.and_eq_true, Bool.not_eq_true', Bool.not_eq_true'] at h'
    obtain ⟨⟨rfl, rfl⟩, h3⟩ := h'
    show okTL subs ++ [p] = targetsDeepL subs ++ [p]
    rw [okTL_of_okDeepL subs h3]
  | .subbuild _ _ _ subs _ raised sf, h => by
    have h' : (!raised && !sf && okDeepL subs) = true := h
    rw [Bool.and_eq_true] at h'
    exact okTL_of_okDeepL subs h'.2
theorem okTL_of_okDeepL : (os : List Op) → okDeepL os = true → okTL os = targetsDeepL os
  | [], _ => rfl
  | o :: os, h => by
    rw [okDeepL_cons, Bool.and_eq_true] at h
    rw [okTL_cons, targetsDeepL_cons, okT_of_okDeep o h.1, okTL_of_okDeepL os h.2]
end

/-- **the record a clean first build writes returns each of its top-level calls' records**, whatever is nested in
    them -/
theorem cachedIn_nested (ops : List Op) (hok : okDeepL ops = true)
    (hnd : (targetsDeepL ops).Pairwise (· ≠ ·))
    (hkeys : (subKeysDeepL ops).Pairwise (fun x y => heq x y = false ∧ heq y x = false))
    (rec : CacheRec) (hroots : rec.roots = ops.filter isComplexRegistered) :
    ∀ o ∈ ops, okTop o = true → cachedIn rec o := by
  intro o ho hoko
  have hsf : isComplexRegistered o = true ∨ cachedIn rec o := by
    cases o with
    | simple _ _ _ _ => exact Or.inr trivial
    | buildFile p c f a k subs r cr raised sf ct => exact Or.inl (Bool.and_eq_true_iff.mp hoko).2
    | subbuild f a k subs r raised sf => exact Or.inl (Bool.and_eq_true_iff.mp hoko).2
  exact hsf.elim (fun h => cachedIn_allF ops (okDeepL_noSFL ops hok) hnd hkeys rec hroots o (mem_registeredL_top ops o ho h)) id

theorem outputs_eq_targetsDeep (n : String) (ops : List Op) (hok : okDeepL ops = true) :
    CacheRec.outputs { buildName := n, roots := ops.filter isComplexRegistered } = targetsDeepL ops := by
  rw [outputs_eq_okT n ops (okDeepL_noSFL ops hok), okTL_of_okDeepL ops hok]

end FB

/-
  Invariants of `build_dirs.py` (`FB.BuildDirs`) that hold after every sequence of calls, on every tree:
  `_exists_dirs` is closed under `os.path.dirname` (the structure the comment in the source promises), every
  directory with an entry in `_created_dirs_map` has reservations, no directory is both "created" and
  "created, then removed by an error", and no reservation count is zero.
-/
import FB.BuildDirs
import FB.Lemmas.PathUp
namespace FB
namespace BuildDirs

/-- `_exists_dirs` is closed under `dirname`, except that the parent `miss` may still be missing -/
def ClosedBut (e : List Path) (miss : Option Path) : Prop :=
  ∀ x ∈ e, x.dropLast ∈ e ∨ some x.dropLast = miss

def Closed (e : List Path) : Prop := ∀ x ∈ e, x.dropLast ∈ e

theorem closed_iff (e : List Path) : Closed e ↔ ClosedBut e none := by
  constructor
  · intro h x hx; exact Or.inl (h x hx)
  · intro h x hx
    rcases h x hx with h' | h'
    · exact h'
    · cases h'

theorem Closed.but {e : List Path} (h : Closed e) (m : Option Path) : ClosedBut e m := fun x hx => Or.inl (h x hx)

theorem ClosedBut.closed {e : List Path} {p : Path} (h : ClosedBut e (some p)) (hp : p ∈ e) : Closed e := by
  intro x hx
  rcases h x hx with h' | h'
  · exact h'
  · injection h' with h'; rw [h']; exact hp

theorem ClosedBut.cons {e : List Path} {p : Path} (h : ClosedBut e (some p)) :
    ClosedBut (p :: e) (some p.dropLast) := by
  intro x hx
  rcases List.mem_cons.mp hx with rfl | hx
  · exact Or.inr rfl
  · rcases h x hx with h' | h'
    · exact Or.inl (List.mem_cons_of_mem _ h')
    · injection h' with h'; left; rw [h']; exact List.mem_cons_self ..

theorem existsUp_eq (b : BD) (parent : Path) : ∃ e, existsUp b parent = { b with existsDirs := e } := by
  fun_induction existsUp b parent with
  | case1 b parent h => exact ⟨b.existsDirs, rfl⟩
  | case2 b h b' => exact ⟨_, rfl⟩
  | case3 b parent h b' hne ih => exact ih

theorem existsUp_closed (b : BD) (parent : Path) (h : ClosedBut b.existsDirs (some parent)) :
    Closed (existsUp b parent).existsDirs := by
  fun_induction existsUp b parent with
  | case1 b parent hc => exact h.closed (by simpa using hc)
  | case2 => exact h.cons.closed (List.mem_cons_self ..)
  | case3 _ _ _ _ _ ih => exact ih h.cons

theorem handleDirExists_fields (b : BD) (parent : Path) :
    (handleDirExists b parent).counts = b.counts ∧ (handleDirExists b parent).created = b.created ∧
      (handleDirExists b parent).errorCreated = b.errorCreated := by
  fun_induction handleDirExists b parent with
  | case1 b parent _ =>
    obtain ⟨e, he⟩ := existsUp_eq b parent
    rw [he]; exact ⟨rfl, rfl, rfl⟩
  | case2 => exact ⟨rfl, rfl, rfl⟩
  | case3 _ _ _ _ _ ih => exact ih

theorem handleDirExists_closed (b : BD) (parent : Path) (h : ClosedBut b.existsDirs (some parent)) :
    Closed (handleDirExists b parent).existsDirs := by
  fun_induction handleDirExists b parent with
  | case1 => exact existsUp_closed _ _ h
  | case2 => exact h.cons.closed (List.mem_cons_self ..)
  | case3 _ _ _ _ _ ih => exact ih h.cons

structure Inv (b : BD) : Prop where
  closed : Closed b.existsDirs
  createdReserved : ∀ d ∈ b.created, hasCount b d = true
  disjoint : ∀ d ∈ b.created, d ∉ b.errorCreated
  positive : ∀ x ∈ b.counts, 0 < x.2

theorem inv_init (ds fs : List Path) : Inv (init ds fs) :=
  ⟨(fun x hx => nomatch hx), (fun d hd => nomatch hd), (fun d hd => nomatch hd), (fun x hx => nomatch hx)⟩

theorem hasCount_congr {b b' : BD} (h : b'.counts = b.counts) (d : Path) : hasCount b' d = hasCount b d := by
  unfold hasCount; rw [h]

theorem Inv.congr {b b' : BD} (h : Inv b) (h1 : b'.existsDirs = b.existsDirs) (h2 : b'.counts = b.counts)
    (h3 : b'.created = b.created) (h4 : b'.errorCreated = b.errorCreated) : Inv b' :=
  ⟨h1 ▸ h.closed, fun d hd => by rw [hasCount_congr h2]; exact h.createdReserved d (h3 ▸ hd),
    fun d hd => by rw [h4]; exact h.disjoint d (h3 ▸ hd), fun x hx => h.positive x (h2 ▸ hx)⟩

theorem handleDirExists_inv (b : BD) (p : Path) (h : Inv b) : Inv (handleDirExists b p) := by
  obtain ⟨hcnt, hcr, her⟩ := handleDirExists_fields b p
  have h' : Inv { handleDirExists b p with existsDirs := b.existsDirs } := h.congr rfl hcnt hcr her
  exact ⟨handleDirExists_closed b p (h.closed.but _), h'.createdReserved, h'.disjoint, h'.positive⟩

theorem mem_add (l : List Path) (p x : Path) : x ∈ add l p ↔ x = p ∨ x ∈ l := by
  unfold add; rw [mem_ite_cons, or_comm]

theorem mem_discard (l : List Path) (p x : Path) : x ∈ discard l p ↔ x ∈ l ∧ x ≠ p := by
  simp [discard]

theorem any_key_filter_ne (cnt : List (Path × Nat)) {d e : Path} (hne : e ≠ d) :
    (cnt.filter (fun x => x.1 ≠ d)).any (fun x => x.1 = e) = cnt.any (fun x => x.1 = e) := by
  rw [List.any_filter]
  congr 1
  funext x
  by_cases hx : x.1 = e
  · have : x.1 ≠ d := fun h' => hne (hx ▸ h')
    simp [hx]
    exact fun h' => absurd (hx ▸ h') hne
  · simp [hx]

theorem hasCount_setCount (b : BD) (d e : Path) (n : Nat) :
    hasCount { b with counts := setCount b.counts d n } e = (decide (e = d) || hasCount b e) := by
  show ((d, n) :: b.counts.filter (fun x => x.1 ≠ d)).any (fun x => x.1 = e) = _
  rw [List.any_cons]
  by_cases he : e = d
  · subst he; simp
  · rw [any_key_filter_ne _ he]
    have : ¬ d = e := fun hh => he hh.symm
    simp only [this, he, decide_false, Bool.false_or]
    rfl

theorem hasCount_filter (b : BD) {d e : Path} (hne : e ≠ d) :
    hasCount { b with counts := b.counts.filter (fun x => x.1 ≠ d) } e = hasCount b e :=
  any_key_filter_ne _ hne

theorem hasCount_filter_self (b : BD) (d : Path) :
    hasCount { b with counts := b.counts.filter (fun x => x.1 ≠ d) } d = false := by
  simp [hasCount, List.any_filter]

theorem setCount_pos {cnt : List (Path × Nat)} (h : ∀ x ∈ cnt, 0 < x.2) (d : Path) {n : Nat} (hn : 0 < n) :
    ∀ x ∈ setCount cnt d n, 0 < x.2 := by
  intro x hx
  rcases List.mem_cons.mp hx with rfl | hx
  · exact hn
  · exact h x (List.mem_filter.mp hx).1

/-! Both loops of `started_building_file` walk up from the parent of the file.  `visit` is one round of the first loop at a directory without
reservations, `regIf` one round of the second; `startedLoop_rel` and `registerUp_rel` say that whatever holds of
single rounds and composes along the walk holds of the loops. -/

def bump (b : BD) (parent : Path) : BD := { b with counts := setCount b.counts parent (getCount b parent + 1) }

def regState (b : BD) (parent : Path) : BD :=
  { b with created := add b.created parent, errorCreated := discard b.errorCreated parent,
           removedFiles := discard b.removedFiles parent }

def visit (b : BD) (cds : List Path) (parent : Path) : BD :=
  if cds.contains parent then regState (bump b parent) parent else bump b parent

def regIf (b : BD) (cds : List Path) (parent : Path) : BD :=
  if (cds.contains parent || b.errorCreated.contains parent) && !b.created.contains parent && hasCount b parent
  then regState b parent else b

theorem startedLoop_eq (cds : List Path) (b : BD) (parent : Path) (locked : List Path) :
    (startedLoop b cds parent locked).1 =
      if getCount b parent > 0 then bump b parent
      else if parent = [] then visit b cds parent
      else (startedLoop (visit b cds parent) cds parent.dropLast
              (if cds.contains parent then locked ++ [parent] else locked)).1 := by
  rw [startedLoop]
  unfold visit
  by_cases hn : getCount b parent > 0
  · simp only [hn, if_true]; rfl
  · by_cases hc : cds.contains parent = true <;> by_cases hp : parent = []
    · simp only [hn, hc, if_true, if_false, dif_pos hp, if_pos hp]; rfl
    · simp only [hn, hc, if_true, if_false, dif_neg hp, if_neg hp]; rfl
    · simp only [hn, hc, if_false, Bool.false_eq_true, dif_pos hp, if_pos hp]; rfl
    · simp only [hn, hc, if_false, Bool.false_eq_true, dif_neg hp, if_neg hp]; rfl

theorem startedLoop_rel (cds : List Path) (R : BD → Path → BD → Prop)
    (stop : ∀ b parent, getCount b parent > 0 → R b parent (bump b parent))
    (root : ∀ b, ¬ getCount b [] > 0 → R b [] (visit b cds []))
    (up : ∀ b parent b', ¬ getCount b parent > 0 → parent ≠ [] → R (visit b cds parent) parent.dropLast b' →
      R b parent b')
    (b : BD) (parent : Path) (locked : List Path) : R b parent (startedLoop b cds parent locked).1 := by
  induction parent using dropLast_induction generalizing b locked with
  | _ parent ih =>
    rw [startedLoop_eq]
    by_cases hn : getCount b parent > 0
    · rw [if_pos hn]; exact stop _ _ hn
    · rw [if_neg hn]
      by_cases hp : parent = []
      · rw [if_pos hp]; subst hp; exact root _ hn
      · rw [if_neg hp]; exact up _ _ _ hn hp (ih hp _ _)

theorem registerUp_eq (cds : List Path) (b : BD) (parent : Path) (locked : List Path) :
    (registerUp b cds parent locked).1 =
      if parent = [] then regIf b cds parent
      else (registerUp (regIf b cds parent) cds parent.dropLast
              (if (cds.contains parent || b.errorCreated.contains parent) && !b.created.contains parent &&
                  hasCount b parent then locked ++ [parent] else locked)).1 := by
  rw [registerUp]
  unfold regIf
  by_cases hc : ((cds.contains parent || b.errorCreated.contains parent) && !b.created.contains parent &&
      hasCount b parent) = true
  · by_cases hp : parent = []
    · simp only [hc, if_true, dif_pos hp, if_pos hp]; rfl
    · simp only [hc, if_true, dif_neg hp, if_neg hp]; rfl
  · by_cases hp : parent = []
    · simp only [hc, if_false, Bool.false_eq_true, dif_pos hp, if_pos hp]
    · simp only [hc, if_false, Bool.false_eq_true, dif_neg hp, if_neg hp]

theorem registerUp_rel (cds : List Path) (R : BD → Path → BD → Prop)
    (root : ∀ b, R b [] (regIf b cds []))
    (up : ∀ b parent b', parent ≠ [] → R (regIf b cds parent) parent.dropLast b' → R b parent b')
    (b : BD) (parent : Path) (locked : List Path) : R b parent (registerUp b cds parent locked).1 := by
  induction parent using dropLast_induction generalizing b locked with
  | _ parent ih =>
    rw [registerUp_eq]
    by_cases hp : parent = []
    · rw [if_pos hp]; subst hp; exact root _
    · rw [if_neg hp]; exact up _ _ _ hp (ih hp _ _)

theorem hasCount_bump (b : BD) (parent e : Path) : hasCount (bump b parent) e = (decide (e = parent) || hasCount b e) :=
  hasCount_setCount b parent e _

theorem hasCount_visit (cds : List Path) (b : BD) (parent e : Path) :
    hasCount (visit b cds parent) e = (decide (e = parent) || hasCount b e) := by
  unfold visit
  split
  · exact hasCount_bump b parent e
  · exact hasCount_bump b parent e

theorem bump_inv {b : BD} (h : Inv b) (parent : Path) : Inv (bump b parent) :=
  ⟨h.closed, fun d hd => by rw [hasCount_bump, h.createdReserved d hd, Bool.or_true], h.disjoint,
    setCount_pos h.positive parent (Nat.succ_pos _)⟩

theorem regState_inv {b : BD} (h : Inv b) {parent : Path} (hc : hasCount b parent = true) : Inv (regState b parent) := by
  refine ⟨h.closed, ?_, ?_, h.positive⟩
  · intro d hd
    rcases (mem_add _ _ _).mp hd with rfl | hd
    · exact hc
    · exact h.createdReserved d hd
  · intro d hd hde
    obtain ⟨hde, hne⟩ := (mem_discard _ _ _).mp hde
    rcases (mem_add _ _ _).mp hd with rfl | hd
    · exact hne rfl
    · exact h.disjoint d hd hde

theorem visit_inv (cds : List Path) {b : BD} (h : Inv b) (parent : Path) : Inv (visit b cds parent) := by
  unfold visit
  split
  · exact regState_inv (bump_inv h parent) (by rw [hasCount_bump]; simp)
  · exact bump_inv h parent

theorem startedLoop_inv (cds : List Path) (b : BD) (parent : Path) (locked : List Path) (h : Inv b) :
    Inv (startedLoop b cds parent locked).1 :=
  startedLoop_rel cds (fun b _ b' => Inv b → Inv b') (fun _ p _ h => bump_inv h p) (fun _ _ h => visit_inv cds h [])
    (fun _ p _ _ _ ih h => ih (visit_inv cds h p)) b parent locked h

theorem regIf_inv (cds : List Path) {b : BD} (h : Inv b) (parent : Path) : Inv (regIf b cds parent) := by
  unfold regIf
  split
  · rename_i hc
    exact regState_inv h (Bool.and_eq_true_iff.mp hc).2
  · exact h

theorem registerUp_inv (cds : List Path) : ∀ (n : Nat) (parent : Path) (b : BD) (locked : List Path),
    parent.length = n → Inv b → Inv (registerUp b cds parent locked).1 :=
  fun _ parent b locked _ h =>
    registerUp_rel cds (fun b _ b' => Inv b → Inv b') (fun _ h => regIf_inv cds h [])
      (fun _ p _ _ ih h => ih (regIf_inv cds h p)) b parent locked h

theorem started_inv (b : BD) (p : Path) (cds : List Path) (h : Inv b) : Inv (started b p cds).1 := by
  have h0 : Inv { b with removedFiles := discard b.removedFiles p } := h.congr rfl rfl rfl rfl
  unfold started
  cases p with
  | nil => exact h0
  | cons a r =>
    have h1 := startedLoop_inv cds _ (a :: r).dropLast [] h0
    simp only
    split
    · exact h1
    · exact registerUp_inv cds _ _ _ _ rfl h1

/-- one round of the loop of `error_building_file` at a directory whose last reservation goes -/
def dropDir (b : BD) (parent : Path) : BD :=
  if b.created.contains parent then
    { b with counts := b.counts.filter (fun x => x.1 ≠ parent), created := discard b.created parent,
             errorCreated := add b.errorCreated parent, maybeRemoved := add b.maybeRemoved parent, existsDirs := [] }
  else { b with counts := b.counts.filter (fun x => x.1 ≠ parent) }

theorem errorLoop_eq (b : BD) (parent : Path) :
    errorLoop b parent =
      match b.counts.find? (fun x => x.1 = parent) with
      | none => none
      | some (_, n) =>
        if n - 1 > 0 then some { b with counts := setCount b.counts parent (n - 1) }
        else if parent = [] then some (dropDir b parent) else errorLoop (dropDir b parent) parent.dropLast := by
  rw [errorLoop]
  cases b.counts.find? (fun x => x.1 = parent) with
  | none => rfl
  | some x =>
    by_cases hk : x.2 - 1 > 0
    · simp only [hk, if_true]
    · by_cases hp : parent = []
      · simp only [hk, if_false, dif_pos hp, if_pos hp]; rfl
      · simp only [hk, if_false, dif_neg hp, if_neg hp]; rfl

theorem errorLoop_rel (R : BD → Path → BD → Prop)
    (dec : ∀ b parent x n, b.counts.find? (fun x => x.1 = parent) = some (x, n) → n - 1 > 0 →
      R b parent { b with counts := setCount b.counts parent (n - 1) })
    (root : ∀ b, R b [] (dropDir b []))
    (up : ∀ b parent b', parent ≠ [] → R (dropDir b parent) parent.dropLast b' → R b parent b')
    (b : BD) (parent : Path) (b' : BD) (he : errorLoop b parent = some b') : R b parent b' := by
  induction parent using dropLast_induction generalizing b with
  | _ parent ih =>
    rw [errorLoop_eq] at he
    cases hf : b.counts.find? (fun x => x.1 = parent) with
    | none => rw [hf] at he; cases he
    | some y =>
      rw [hf] at he
      dsimp only at he
      by_cases hk : y.2 - 1 > 0
      · rw [if_pos hk] at he; cases he; exact dec _ _ _ _ hf hk
      · rw [if_neg hk] at he
        by_cases hp : parent = []
        · rw [if_pos hp] at he; subst hp; cases he; exact root _
        · rw [if_neg hp] at he; exact up _ _ _ hp (ih hp _ he)

theorem dropDir_inv {b : BD} (h : Inv b) (parent : Path) : Inv (dropDir b parent) := by
  unfold dropDir
  split
  · refine ⟨(fun x hx => nomatch hx), ?_, ?_, fun x hx => h.positive x (List.mem_filter.mp hx).1⟩
    · intro d hd
      obtain ⟨hd1, hd2⟩ := (mem_discard _ _ _).mp hd
      exact (hasCount_filter b hd2).trans (h.createdReserved d hd1)
    · intro d hd hde
      obtain ⟨hd1, hd2⟩ := (mem_discard _ _ _).mp hd
      rcases (mem_add _ _ _).mp hde with h' | h'
      · exact hd2 h'
      · exact h.disjoint d hd1 h'
  · rename_i hnc
    have hnm : parent ∉ b.created := by simpa using hnc
    refine ⟨h.closed, ?_, h.disjoint, fun x hx => h.positive x (List.mem_filter.mp hx).1⟩
    intro d hd
    exact (hasCount_filter b (fun e : d = parent => hnm (e ▸ hd))).trans (h.createdReserved d hd)

theorem errorLoop_inv (b : BD) (parent : Path) (b' : BD) (h : Inv b) (he : errorLoop b parent = some b') : Inv b' :=
  errorLoop_rel (fun b _ b' => Inv b → Inv b')
    (fun b p _ _ _ hgt h => ⟨h.closed, fun d hd => by rw [hasCount_setCount, h.createdReserved d hd, Bool.or_true],
      h.disjoint, setCount_pos h.positive p hgt⟩)
    (fun _ h => dropDir_inv h []) (fun _ p _ _ ih h => ih (dropDir_inv h p)) b parent b' he h

theorem error_inv (b b' : BD) (p : Path) (h : Inv b) (he : error b p = some b') : Inv b' := by
  unfold error at he
  cases p with
  | nil => injection he with he; subst he; exact h
  | cons a r => exact errorLoop_inv b _ b' h he

/-! `_check_maybe_removed_dir` touches what the invariants speak of only through `_handle_dir_exists`. -/

theorem checkLoop_inv_of (fs : FS) (fuel : Nat)
    (hcm : ∀ (b : BD) (d : Path) (b' : BD) (r : Bool), Inv b → checkMaybeRemoved fs fuel b d = some (b', r) → Inv b') :
    ∀ (names : List String) (b : BD) (d : Path) (b' : BD) (r : Bool), Inv b →
      checkLoop fs fuel b d names = some (b', r) → Inv b' := by
  intro names
  induction names with
  | nil =>
    intro b d b' r h he
    rw [checkLoop] at he
    cases he
    exact h.congr rfl rfl rfl rfl
  | cons n rest ih =>
    intro b d b' r h he
    rw [checkLoop] at he
    by_cases h1 : b.removedDirs.contains (d ++ [n]) = true
    · rw [if_pos h1] at he
      by_cases h2 : fs.isFile (d ++ [n]) = true
      · rw [if_pos h2] at he; cases he; exact handleDirExists_inv _ _ h
      · rw [if_neg h2] at he; exact ih b d b' r h he
    · rw [if_neg h1] at he
      by_cases h3 : b.removedFiles.contains (d ++ [n]) = true
      · rw [if_pos h3] at he
        by_cases h4 : fs.isDir (d ++ [n]) = true
        · rw [if_pos h4] at he; cases he; exact handleDirExists_inv _ _ h
        · rw [if_neg h4] at he; exact ih b d b' r h he
      · rw [if_neg h3] at he
        by_cases h5 : b.maybeRemoved.contains (d ++ [n]) = true
        · rw [if_pos h5] at he
          cases hcm1 : checkMaybeRemoved fs fuel b (d ++ [n]) with
          | none => rw [hcm1] at he; cases he
          | some res =>
            obtain ⟨b1, r1⟩ := res
            have hb1 := hcm b _ b1 r1 h hcm1
            rw [hcm1] at he
            cases r1 with
            | true => exact ih b1 d b' r hb1 he
            | false => cases he; exact hb1
        · rw [if_neg h5] at he
          cases he
          by_cases h6 : fs.isDir (d ++ [n]) = true
          · rw [if_pos h6]; exact handleDirExists_inv _ _ h
          · rw [if_neg h6]; exact handleDirExists_inv _ _ h

theorem checkMaybeRemoved_inv (fs : FS) : ∀ (fuel : Nat) (b : BD) (d : Path) (b' : BD) (r : Bool), Inv b →
    checkMaybeRemoved fs fuel b d = some (b', r) → Inv b' := by
  intro fuel
  induction fuel with
  | zero => intro b d b' r _ he; rw [checkMaybeRemoved] at he; cases he
  | succ fuel ih =>
    intro b d b' r h he
    have h1 : Inv { b with maybeRemoved := discard b.maybeRemoved d } := h.congr rfl rfl rfl rfl
    rw [checkMaybeRemoved] at he
    dsimp only at he
    by_cases hm : (!b.maybeRemoved.contains d) = true
    · rw [if_pos hm] at he; cases he
    · rw [if_neg hm] at he
      by_cases hu : (List.range d.length).any (fun k => fs.isFile (d.take k)) = true
      · rw [if_pos hu] at he; cases he; exact handleDirExists_inv _ _ h1
      · rw [if_neg hu] at he
        cases hg : fs.get d with
        | none => rw [hg] at he; cases he; exact h1.congr rfl rfl rfl rfl
        | some e =>
          rw [hg] at he
          cases e with
          | file _ _ => cases he; exact handleDirExists_inv _ _ h1
          | dir => exact checkLoop_inv_of fs fuel ih _ _ d b' r h1 he

theorem checkLoop_inv (fs : FS) : ∀ (fuel : Nat) (b : BD) (d : Path) (names : List String) (b' : BD) (r : Bool), Inv b →
    checkLoop fs fuel b d names = some (b', r) → Inv b' :=
  fun fuel b d names => checkLoop_inv_of fs fuel (checkMaybeRemoved_inv fs fuel) names b d

theorem isRemoved_inv (fs : FS) (b b' : BD) (d : Path) (r : Bool) (h : Inv b)
    (he : isRemoved fs b d = some (b', r)) : Inv b' := by
  unfold isRemoved at he
  by_cases h1 : hasCount b d = true
  · rw [if_pos h1] at he; cases he; exact h
  · rw [if_neg h1] at he
    by_cases h2 : b.removedDirs.contains d = true
    · rw [if_pos h2] at he; cases he; exact h
    · rw [if_neg h2] at he
      by_cases h3 : (!b.maybeRemoved.contains d) = true
      · rw [if_pos h3] at he; cases he; exact h
      · rw [if_neg h3] at he; exact checkMaybeRemoved_inv fs _ b d b' r h he

/-- the calls `FileBuilder` and `SimpleOperationExecutor` make -/
inductive Cmd where
  | isRemoved (d : Path)
  | exists_ (d : Path)
  | started (p : Path) (createdDirs : List Path)
  | error (p : Path)

def step (fs : FS) (b : BD) : Cmd → Option BD
  | .isRemoved d => (isRemoved fs b d).map (·.1)
  | .exists_ d => some (handleDirExists b d)
  | .started p cds => some (started b p cds).1
  | .error p => error b p

/-- **The invariants hold after every sequence of calls** (that did not raise), whatever the tree looks like
    and however it changes between the calls. -/
theorem run_inv : ∀ (cmds : List (FS × Cmd)) (b b' : BD), Inv b →
    cmds.foldlM (fun b x => step x.1 b x.2) b = some b' → Inv b' := by
  intro cmds
  induction cmds with
  | nil => intro b b' h he; cases he; exact h
  | cons x rest ih =>
    intro b b' h he
    rw [List.foldlM_cons] at he
    cases hs : step x.1 b x.2 with
    | none => rw [hs] at he; cases he
    | some b1 =>
      rw [hs] at he
      refine ih b1 b' ?_ he
      obtain ⟨fs, cmd⟩ := x
      cases cmd with
      | isRemoved d =>
        cases hr : isRemoved fs b d with
        | none => simp [step, hr] at hs
        | some res =>
          obtain ⟨bb, r⟩ := res
          simp [step, hr] at hs; subst hs
          exact isRemoved_inv fs b bb d r h hr
      | exists_ d => cases hs; exact handleDirExists_inv _ _ h
      | started p cds => cases hs; exact started_inv _ _ _ h
      | error p => exact error_inv b b1 p h hs

end BuildDirs
end FB

/-
  C12 — clean removes exactly what the last build created (model: `Spec.clean` = `Impl.clean`,
  both `preClean` of the recorded outputs / created directories).
-/
import FB.Lemmas.Spec
import FB.Lemmas.FSKind
import FB.Impl
namespace FB
open FS Spec

theorem foldl_eraseFiles_get (ps : List Path) (fs : FS) (q : Path) :
    (ps.foldl (fun fs p => if fs.isFile p then fs.erase p else fs) fs).get q = fs.get q ∨
    (q ∈ ps ∧ (∃ b m, fs.get q = some (.file b m)) ∧
      (ps.foldl (fun fs p => if fs.isFile p then fs.erase p else fs) fs).get q = none) := by
  rw [get_eraseFiles]
  by_cases hc : q ∈ ps ∧ fs.isFile q = true
  · exact Or.inr ⟨hc.1, isFile_iff.mp hc.2, if_pos hc⟩
  · exact Or.inl (if_neg hc)

/-- C12 ("and nothing else"): whatever `clean` changes is a recorded output file, the cache file, or a
    recorded created directory — and it changes them only by removing them. -/
theorem C12_preClean_frame (fs : FS) (cf : Path) (r : Rec) (q : Path) :
    (preClean fs cf r).get q = fs.get q ∨
    ((preClean fs cf r).get q = none ∧
      ((q ∈ r.outputs ∧ ∃ b m, fs.get q = some (.file b m)) ∨
       (q = cf ∧ ∃ b m, fs.get q = some (.file b m)) ∨
       (q ∈ r.createdDirs ∧ fs.get q = some .dir))) := by
  unfold preClean
  simp only
  generalize hfs1 : (r.outputs.foldl (fun fs p => if fs.isFile p then fs.erase p else fs) fs) = fs1
  have h1 := foldl_eraseFiles_get r.outputs fs q
  rw [hfs1] at h1
  generalize hfs2 : (if fs1.isFile cf then fs1.erase cf else fs1) = fs2
  have h2 : fs2.get q = fs1.get q ∨ (q = cf ∧ (∃ b m, fs1.get q = some (.file b m)) ∧ fs2.get q = none) := by
    rw [← hfs2]
    rcases foldl_eraseFiles_get [cf] fs1 q with h | ⟨hm, hb, hn⟩
    · exact .inl h
    · exact .inr ⟨List.mem_singleton.mp hm, hb, hn⟩
  rcases rmEmpty_get r.createdDirs fs2 q with h3 | ⟨hm, hd, hn⟩
  · rw [h3]
    rcases h2 with h2 | ⟨he, ⟨b, m, hb⟩, hn2⟩
    · rw [h2]
      rcases h1 with h1 | ⟨hm1, hb1, hn1⟩
      · left; exact h1
      · right; exact ⟨hn1, Or.inl ⟨hm1, hb1⟩⟩
    · rcases h1 with h1 | ⟨hm1, hb1, hn1⟩
      · right; exact ⟨hn2, Or.inr (Or.inl ⟨he, b, m, by rw [← h1, hb]⟩)⟩
      · rw [hn1] at hb; cases hb
  · right
    refine ⟨hn, Or.inr (Or.inr ⟨hm, ?_⟩)⟩
    rcases h2 with h2 | ⟨_, _, hn2⟩
    · rcases h1 with h1 | ⟨_, _, hn1⟩
      · rw [← h1, ← h2, hd]
      · rw [h2, hn1] at hd; cases hd
    · rw [hn2] at hd; cases hd

/-- after `preClean` the cache file is gone -/
theorem preClean_cf_gone (fs : FS) (cf : Path) (r : Rec) (b : String) (m : Nat)
    (h : fs.get cf = some (.file b m)) : (preClean fs cf r).get cf = none := by
  have hfs2 : ((r.outputs ++ [cf]).foldl (fun fs p => if fs.isFile p then fs.erase p else fs) fs).get cf = none := by
    rw [get_eraseFiles, if_pos ⟨List.mem_append_right _ (List.mem_singleton_self cf), isFile_iff.mpr ⟨b, m, h⟩⟩]
  rw [List.foldl_append] at hfs2
  exact rmEmpty_none _ _ _ hfs2

/-- C12: with no cache file, `clean` does nothing. -/
theorem C12_clean_noop_without_cache (w : World) (cf : Path) (n : Option String)
    (h : w.fs.get cf = none) : (Spec.clean w cf n).world = w ∧ (Spec.clean w cf n).res = .ok .null := by
  simp [Spec.clean, World.cacheState, h]

theorem World.cacheState_valid {w : World} {cf : Path} {r : Rec} (h : w.cacheState cf = .valid r) :
    ∃ b m, w.fs.get cf = some (.file b m) := by
  unfold World.cacheState at h
  cases hg : w.fs.get cf with
  | none => rw [hg] at h; cases h
  | some e =>
    cases e with
    | dir => rw [hg] at h; cases h
    | file b m => exact ⟨b, m, rfl⟩

theorem KWorld.cacheState_valid {w : KWorld} {cf : Path} {r : CacheRec} (h : w.cacheState cf = .valid r) :
    ∃ b m, w.fs.get cf = some (.file b m) := by
  unfold KWorld.cacheState at h
  cases hg : w.fs.get cf with
  | none => rw [hg] at h; cases h
  | some e =>
    cases e with
    | dir => rw [hg] at h; cases h
    | file b m => exact ⟨b, m, rfl⟩

theorem KWorld.cacheState_absent {w : KWorld} {cf : Path} (h : w.cacheState cf = .absent) : w.fs.get cf = none := by
  unfold KWorld.cacheState at h
  cases hg : w.fs.get cf with
  | none => rfl
  | some e =>
    rw [hg] at h
    cases e with
    | dir => cases h
    | file b m => dsimp only at h; split at h <;> cases h

/-- C12: calling `clean` twice equals calling it once. -/
theorem C12_clean_idempotent (w : World) (cf : Path) (n : Option String) :
    (Spec.clean (Spec.clean w cf n).world cf n).world = (Spec.clean w cf n).world := by
  cases hc : w.cacheState cf with
  | absent => simp [Spec.clean, hc]
  | isDir => simp [Spec.clean, hc]
  | corrupt => simp [Spec.clean, hc]
  | valid r =>
    by_cases hn : n.isSome ∧ n ≠ some r.buildName
    · simp [Spec.clean, hc, hn]
    · obtain ⟨b, m, hg⟩ := World.cacheState_valid hc
      have hgone := preClean_cf_gone w.fs cf r b m hg
      have : (Spec.clean w cf n).world = { w with fs := preClean w.fs cf r } := by
        simp [Spec.clean, hc, hn]
      rw [this]
      simp [Spec.clean, World.cacheState, hgone]

/-- the implementation model cleans with the same function on the record's projection -/
theorem C12_impl_clean_is_preClean (w : KWorld) (cf : Path) (r : CacheRec)
    (h : w.cacheState cf = .valid r) :
    (Impl.clean w cf none).world.fs = preClean w.fs cf r.toRec := by
  simp [Impl.clean, h]

end FB

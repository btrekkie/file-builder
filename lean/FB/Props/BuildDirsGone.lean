/-
  C04 — the scan of `build_dirs.py` decides what the property says, in the phase of a build before the first
  `build_file`.

  `isRemoved_spec`: on a fixed tree, starting from `BuildDirs(old_dirs, old_files)` and through any sequence of
  `is_removed_norm_case` / `handle_norm_cased_dir_exists` calls (the latter for paths that exist and are not
  gone — what `SimpleOperationExecutor.is_dir/is_file` pass), the memoised recursive scan
  (`_check_maybe_removed_dir`, with its three caches) answers `true` exactly for the old directories that are
  `Gone`, and keeps the invariant `QInv` that makes the caches sound.  In this phase there are no reservation
  counts, and `QInv` is `QInvR` with nothing reserved (`qinvBut_iff`): every statement here is the one of
  `BuildDirsGoneR` at `Res = fun _ => False`.
-/
import FB.Props.BuildDirsGoneR
namespace FB
namespace BuildDirs
open FS

variable (fs : FS) (oldDirs oldFiles : List Path)

/-- the caches of `BuildDirs` are sound with respect to `Gone`; the directories in `S` are being scanned right
    now (their verdict is still open) -/
structure QInvBut (S : List Path) (b : BD) : Prop where
  counts : b.counts = []
  rf_sub : ∀ p ∈ b.removedFiles, p ∈ oldFiles
  rf_cov : ∀ p ∈ oldFiles, p ∈ b.removedFiles ∨ fs.isDir p = true
  rd : ∀ d ∈ b.removedDirs, d ∈ oldDirs ∧ Gone fs oldDirs oldFiles d
  mr_sub : ∀ d ∈ b.maybeRemoved, d ∈ oldDirs
  cov : ∀ d ∈ oldDirs, d ∉ S → d ∈ b.maybeRemoved ∨ d ∈ b.removedDirs ∨ ¬ Gone fs oldDirs oldFiles d
  disj : ∀ d ∈ b.maybeRemoved, d ∉ b.removedDirs

theorem qinvBut_iff (S : List Path) (b : BD) :
    QInvBut fs oldDirs oldFiles S b ↔ QInvR fs oldDirs oldFiles (fun _ => False) S b := by
  constructor
  · intro h
    refine ⟨fun d => by simp [hasCount, h.counts], h.rf_sub, h.rf_cov, fun d hd => ⟨(h.rd d hd).1, Or.inr (h.rd d hd).2⟩,
      h.mr_sub, fun d hd hS => ?_, h.disj⟩
    rcases h.cov d hd hS with h' | h' | h'
    · exact Or.inl h'
    · exact Or.inr (Or.inl h')
    · exact Or.inr (Or.inr (Or.inl h'))
  · intro h
    refine ⟨?_, h.rf_sub, h.rf_cov, fun d hd => ⟨(h.rd d hd).1, (h.rd d hd).2.resolve_left id⟩, h.mr_sub, fun d hd hS => ?_, h.disj⟩
    · cases hc : b.counts with
      | nil => rfl
      | cons x _ => exact ((h.counts x.1).mp (by simp [hasCount, hc])).elim
    · rcases h.cov d hd hS with h' | h' | h' | h'
      · exact Or.inl h'
      · exact Or.inr (Or.inl h')
      · exact Or.inr (Or.inr h')
      · exact h'.elim

theorem QInvBut.opened {S : List Path} {b : BD} (h : QInvBut fs oldDirs oldFiles S b) (d : Path) :
    QInvBut fs oldDirs oldFiles (d :: S) b :=
  ⟨h.counts, h.rf_sub, h.rf_cov, h.rd, h.mr_sub, fun x hx hS => h.cov x hx (fun hm => hS (List.mem_cons_of_mem _ hm)), h.disj⟩

theorem QInvBut.closed {S : List Path} {b : BD} {d : Path} (h : QInvBut fs oldDirs oldFiles (d :: S) b)
    (hd : d ∈ b.maybeRemoved ∨ d ∈ b.removedDirs ∨ ¬ Gone fs oldDirs oldFiles d) :
    QInvBut fs oldDirs oldFiles S b :=
  ⟨h.counts, h.rf_sub, h.rf_cov, h.rd, h.mr_sub, fun x hx hS => by
    by_cases hxd : x = d
    · subst hxd; exact hd
    · exact h.cov x hx (by simp [hxd, hS]), h.disj⟩

theorem handleDirExists_qinv (S : List Path) (b : BD) (x : Path) (h : QInvBut fs oldDirs oldFiles S b)
    (ha : Anchor fs oldDirs oldFiles x) :
    QInvBut fs oldDirs oldFiles S (handleDirExists b x) ∧
      (∀ y ∈ (handleDirExists b x).maybeRemoved, y ∈ b.maybeRemoved) ∧
      (∀ y ∈ (handleDirExists b x).removedDirs, y ∈ b.removedDirs) := by
  obtain ⟨q1, q2⟩ := handleDirExists_qinvR fs oldDirs oldFiles _ S b x ((qinvBut_iff fs oldDirs oldFiles S b).mp h) ha
  exact ⟨(qinvBut_iff fs oldDirs oldFiles S _).mpr q1, q2⟩

/-- the `for subfile in subfiles` loop of `_check_maybe_removed_dir`, given the recursive calls -/
theorem checkLoop_spec (hwf : TreeWF fs) (hv : Valid oldDirs oldFiles) (fuel : Nat)
    (hcm : ∀ (S : List Path) (b : BD) (d : Path) (b' : BD) (r : Bool), QInvBut fs oldDirs oldFiles S b → d ∈ b.maybeRemoved →
      (∀ s ∈ S, s.length < d.length) → checkMaybeRemoved fs fuel b d = some (b', r) →
      QInvBut fs oldDirs oldFiles S b' ∧ Mono b b' ∧ (r = true ↔ Gone fs oldDirs oldFiles d)) :
    ∀ (rest : List String) (S : List Path) (b : BD) (d : Path) (b' : BD) (r : Bool),
      QInvBut fs oldDirs oldFiles (d :: S) b → d ∈ oldDirs → d ∉ b.maybeRemoved → d ∉ b.removedDirs →
      (∀ s ∈ S, s.length < d.length) → underFile fs d = false → fs.get d = some .dir →
      (∀ n ∈ rest, n ∈ fs.listdir d) →
      (∀ n ∈ fs.listdir d, n ∉ rest → GoneChild fs oldDirs oldFiles (d ++ [n])) →
      checkLoop fs fuel b d rest = some (b', r) →
      QInvBut fs oldDirs oldFiles S b' ∧ MonoBut d b b' ∧ (r = true ↔ Gone fs oldDirs oldFiles d) := by
  intro rest S b d b' r h hdo hdm _ hS hu hg hrest hdone hrun
  have hcmR : ∀ (S : List Path) (b : BD) (d : Path) (b' : BD) (r : Bool), QInvR fs oldDirs oldFiles (fun _ => False) S b →
      d ∈ b.maybeRemoved → ¬ False → (∀ s ∈ S, s.length < d.length) → checkMaybeRemoved fs fuel b d = some (b', r) →
      QInvR fs oldDirs oldFiles (fun _ => False) S b' ∧ Mono b b' ∧ (r = true ↔ Gone fs oldDirs oldFiles d) := by
    intro S b d b' r h hdm _ hS hrun
    obtain ⟨p1, p2⟩ := hcm S b d b' r ((qinvBut_iff fs oldDirs oldFiles S b).mpr h) hdm hS hrun
    exact ⟨(qinvBut_iff fs oldDirs oldFiles S b').mp p1, p2⟩
  obtain ⟨q1, q2⟩ := checkLoop_specR fs oldDirs oldFiles (fun _ => False) hwf hv (fun _ hf => hf) fuel hcmR rest S b d b' r
    ((qinvBut_iff fs oldDirs oldFiles _ b).mp h) hdo id hdm hS hu hg hrest hdone hrun
  exact ⟨(qinvBut_iff fs oldDirs oldFiles S b').mpr q1, q2⟩

/-- **the scan decides `Gone`**: `_check_maybe_removed_dir(d)` -/
theorem checkMaybeRemoved_spec (hwf : TreeWF fs) (hv : Valid oldDirs oldFiles) : ∀ (fuel : Nat)
    (S : List Path) (b : BD) (d : Path) (b' : BD) (r : Bool), QInvBut fs oldDirs oldFiles S b → d ∈ b.maybeRemoved →
      (∀ s ∈ S, s.length < d.length) → checkMaybeRemoved fs fuel b d = some (b', r) →
      QInvBut fs oldDirs oldFiles S b' ∧ Mono b b' ∧ (r = true ↔ Gone fs oldDirs oldFiles d) := by
  intro fuel S b d b' r h hdm hS hrun
  obtain ⟨q1, q2⟩ := checkMaybeRemoved_specR fs oldDirs oldFiles (fun _ => False) hwf hv (fun _ hf => hf) fuel S b d b' r
    ((qinvBut_iff fs oldDirs oldFiles S b).mp h) hdm id hS hrun
  exact ⟨(qinvBut_iff fs oldDirs oldFiles S b').mpr q1, q2⟩

abbrev QInv (b : BD) : Prop := QInvBut fs oldDirs oldFiles [] b

theorem init_qinv : QInv fs oldDirs oldFiles (init oldDirs oldFiles) :=
  (qinvBut_iff fs oldDirs oldFiles [] _).mpr (init_qinvR fs oldDirs oldFiles)

/-- **`is_removed_norm_case(d)` answers `True` exactly for the old directories that are gone**, and keeps the
    caches sound -/
theorem isRemoved_spec (hwf : TreeWF fs) (hv : Valid oldDirs oldFiles) (b : BD) (d : Path) (b' : BD) (r : Bool)
    (h : QInv fs oldDirs oldFiles b) (hrun : isRemoved fs b d = some (b', r)) :
    QInv fs oldDirs oldFiles b' ∧ (r = true ↔ d ∈ oldDirs ∧ Gone fs oldDirs oldFiles d) := by
  obtain ⟨q1, q2⟩ := isRemoved_specR fs oldDirs oldFiles (fun _ => False) hwf hv (fun _ hf => hf) b d b' r
    ((qinvBut_iff fs oldDirs oldFiles [] b).mp h) hrun
  exact ⟨(qinvBut_iff fs oldDirs oldFiles [] b').mpr q1, fun hr => (q2.mp hr).2, fun hh => q2.mpr ⟨id, hh⟩⟩

/-- the states of a `BuildDirs` object between its construction and the first `build_file` of the build -/
inductive QReach : BD → Prop
  | init : QReach (init oldDirs oldFiles)
  | removed (b : BD) (d : Path) (b' : BD) (r : Bool) : QReach b → isRemoved fs b d = some (b', r) → QReach b'
  | dirExists (b : BD) (x : Path) : QReach b → Anchor fs oldDirs oldFiles x → QReach (handleDirExists b x)

theorem qreach_qinv (hwf : TreeWF fs) (hv : Valid oldDirs oldFiles) {b : BD} (h : QReach fs oldDirs oldFiles b) :
    QInv fs oldDirs oldFiles b := by
  induction h with
  | init => exact init_qinv fs oldDirs oldFiles
  | removed b d b' r _ hrun ih => exact (isRemoved_spec fs oldDirs oldFiles hwf hv b d b' r ih hrun).1
  | dirExists b x _ ha ih => exact (handleDirExists_qinv fs oldDirs oldFiles [] b x ih ha).1

/-- **C04, old directories**: whatever was asked before, `is_removed_norm_case(d)` says that `d` is gone iff the
    previous build created `d` and it is absent, or holds nothing but that build's outputs and directories
    that are gone themselves -/
theorem C04_isRemoved_iff_gone (hwf : TreeWF fs) (hv : Valid oldDirs oldFiles) {b : BD} (h : QReach fs oldDirs oldFiles b)
    (d : Path) (b' : BD) (r : Bool) (hrun : isRemoved fs b d = some (b', r)) :
    r = true ↔ d ∈ oldDirs ∧ Gone fs oldDirs oldFiles d :=
  (isRemoved_spec fs oldDirs oldFiles hwf hv b d b' r (qreach_qinv fs oldDirs oldFiles hwf hv h) hrun).2


/-! non-vacuity: a tree with one old directory that holds only an old output (gone) and one that holds
    a foreign file (alive); the hypotheses hold and the scan says so -/

def exFS : FS := [(["o"], .dir), (["o", "x"], .file "1" 1), (["k"], .dir), (["k", "foreign"], .file "f" 3)]
def exDirs : List Path := [["o"], ["k"]]
def exFiles : List Path := [["o", "x"], ["k", "x"]]

theorem exFS_wf : TreeWF exFS := by
  intro p hne hg
  cases hg' : exFS.get p with
  | none => exact absurd hg' hg
  | some e =>
    have hm := mem_of_get exFS p e hne hg'
    simp only [exFS, List.mem_cons, Prod.mk.injEq, List.not_mem_nil, or_false] at hm
    rcases hm with ⟨rfl, _⟩ | ⟨rfl, _⟩ | ⟨rfl, _⟩ | ⟨rfl, _⟩ <;> decide

theorem ex_valid : Valid exDirs exFiles := by
  intro f hf d hd
  simp only [exFiles, exDirs, List.mem_cons, List.not_mem_nil, or_false] at hf hd
  rcases hf with rfl | rfl <;> rcases hd with rfl | rfl <;> decide

set_option maxRecDepth 4000 in
example : (isRemoved exFS (init exDirs exFiles) ["o"]).map (·.2) = some true ∧
    (isRemoved exFS (init exDirs exFiles) ["k"]).map (·.2) = some false ∧
    (Gone exFS exDirs exFiles ["o"]) ∧ ¬ (Gone exFS exDirs exFiles ["k"]) := by
  have h1 : (isRemoved exFS (init exDirs exFiles) ["o"]).map (·.2) = some true := by
    simp [isRemoved, hasCount, init, add, exDirs, exFiles, checkMaybeRemoved, checkLoop, discard, exFS, FS.isFile, FS.isDir, FS.get,
      FS.listdir, FS.childNames, sortStrs, insertStr, parent]
  have h2 : (isRemoved exFS (init exDirs exFiles) ["k"]).map (·.2) = some false := by
    simp [isRemoved, hasCount, init, add, exDirs, exFiles, checkMaybeRemoved, checkLoop, discard, exFS, FS.isFile, FS.isDir, FS.get,
      FS.listdir, FS.childNames, sortStrs, insertStr, parent]
  refine ⟨h1, h2, ?_, ?_⟩
  · cases hr : isRemoved exFS (init exDirs exFiles) ["o"] with
    | none => rw [hr] at h1; cases h1
    | some x =>
      obtain ⟨b', r⟩ := x
      rw [hr] at h1; simp at h1; subst h1
      exact ((C04_isRemoved_iff_gone exFS exDirs exFiles exFS_wf ex_valid (QReach.init) _ _ _ hr).mp rfl).2
  · cases hr : isRemoved exFS (init exDirs exFiles) ["k"] with
    | none => rw [hr] at h2; cases h2
    | some x =>
      obtain ⟨b', r⟩ := x
      rw [hr] at h2; simp at h2; subst h2
      intro hg
      have := (C04_isRemoved_iff_gone exFS exDirs exFiles exFS_wf ex_valid (QReach.init) _ _ _ hr).mpr ⟨by decide, hg⟩
      cases this

end BuildDirs
end FB

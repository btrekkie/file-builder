/-
  C05 — from one committed build to the start of the next.  A first build on a tree where neither its targets, nor
  the directories it has to make, nor the cache file exist ("did not itself overwrite foreign files at its target
  paths") only inserts entries under its own keys (`strip`), so `preClean` recovers the start tree *as a list*
  (`preClean_recovers`) and the next build starts its root function in a state that looks the same (`rebuild_start`).
-/
import FB.Props.C05Flat
import FB.Props.C04PreClean
namespace FB
open FS Spec Impl

def strip (K : List Path) (fs : FS) : FS := fs.filter (fun x => !K.contains x.1)

theorem strip_erase (K : List Path) (fs : FS) (p : Path) (hp : p ∈ K) : strip K (fs.erase p) = strip K fs := by
  unfold strip FS.erase
  rw [List.filter_filter]
  congr 1
  funext x
  by_cases hx : x.1 = p
  · subst hx; simp [hp]
  · simp [hx]

theorem strip_set (K : List Path) (fs : FS) (p : Path) (e : Entry) (hp : p ∈ K) : strip K (fs.set p e) = strip K fs := by
  unfold FS.set
  have : strip K ((p, e) :: fs.erase p) = strip K (fs.erase p) := by
    unfold strip; simp [List.filter, hp]
  rw [this, strip_erase K fs p hp]

theorem strip_mkdirStep (K : List Path) (fs : FS) (d : Path) (hd : d ∈ K) : strip K (mkdirStep fs d) = strip K fs := by
  unfold mkdirStep
  cases h : fs.mkdir d with
  | error e => rfl
  | ok fs' =>
    simp only
    unfold FS.mkdir at h
    split at h
    · cases h
    · split at h <;> try cases h
      split at h
      · cases h
      · simp only [Except.ok.injEq] at h
        rw [← h, strip_set K fs d .dir hd]

theorem strip_mkdirs (K : List Path) (ds : List Path) (hds : ∀ d ∈ ds, d ∈ K) : ∀ fs : FS, strip K (mkdirs fs ds) = strip K fs := by
  induction ds with
  | nil => intro fs; rfl
  | cons d r ih =>
    intro fs
    have hstep : mkdirs fs (d :: r) = mkdirs (mkdirStep fs d) r := rfl
    rw [hstep, ih (fun x hx => hds x (List.mem_cons_of_mem _ hx)), strip_mkdirStep K fs d (hds d (List.mem_cons_self ..))]

theorem strip_rmdirStep (K : List Path) (fs : FS) (d : Path) (hd : d ∈ K) : strip K (rmdirStep fs d) = strip K fs := by
  unfold rmdirStep
  cases h : fs.rmdir d with
  | error e => rfl
  | ok fs' =>
    simp only
    unfold FS.rmdir at h
    split at h
    · cases h
    · split at h <;> try cases h
      split at h
      · simp only [Except.ok.injEq] at h
        rw [← h, strip_erase K fs d hd]
      · cases h

theorem strip_foldl_rmdir (K : List Path) (ds : List Path) (hds : ∀ d ∈ ds, d ∈ K) : ∀ fs : FS,
    strip K (ds.foldl rmdirStep fs) = strip K fs := by
  induction ds with
  | nil => intro fs; rfl
  | cons d r ih =>
    intro fs
    simp only [List.foldl]
    rw [ih (fun x hx => hds x (List.mem_cons_of_mem _ hx)), strip_rmdirStep K fs d (hds d (List.mem_cons_self ..))]

theorem strip_rmEmpty (K : List Path) (fs : FS) (ds : List Path) (hds : ∀ d ∈ ds, d ∈ K) : strip K (rmEmpty fs ds) = strip K fs := by
  rw [rmEmpty_eq]
  exact strip_foldl_rmdir K _ (fun d hd => hds d (List.mem_mergeSort.mp hd)) fs

theorem strip_self (K : List Path) (fs : FS) (h : ∀ x ∈ fs, x.1 ∉ K) : strip K fs = fs := by
  unfold strip
  apply List.filter_eq_self.mpr
  intro x hx
  simpa using h x hx

theorem strip_self_of_none (K : List Path) (fs : FS) (hroot : ([] : Path) ∉ K) (h : ∀ k ∈ K, fs.get k = none) : strip K fs = fs := by
  apply strip_self
  intro x hx hk
  have hne : x.1 ≠ [] := fun e => hroot (e ▸ hk)
  have := get_isSome_of_mem fs x.1 x.2 (by cases x; exact hx)
  rw [h x.1 hk] at this
  cases this


theorem strip_setupState (K : List Path) (sp : SpecSt) (path : Path) (made : List Path) (hp : path ∈ K)
    (hm : ∀ d ∈ made, d ∈ K) : strip K (setupState sp path made).fs = strip K sp.fs := by
  unfold setupState
  simp only
  split
  · rw [strip_erase K _ path hp, strip_mkdirs K made hm]
  · rw [strip_mkdirs K made hm]

/-- what a first run in which every call succeeds does to the tree: it only inserts entries under its own keys
    (targets and directories it made), and those sets only grow -/
structure OkRun (s s2 : KSt) : Prop where
  claimed : ∀ p ∈ s.sp.claimedFiles, p ∈ s2.sp.claimedFiles
  dirs : ∀ d ∈ s.sp.createdDirs, d ∈ s2.sp.createdDirs
  strip : ∀ K : List Path, (∀ p ∈ s2.sp.claimedFiles, p ∈ K) → (∀ d ∈ s2.sp.createdDirs, d ∈ K) →
    strip K s2.sp.fs = strip K s.sp.fs
  cacheFile : s2.sp.cacheFile = s.sp.cacheFile
  dirSize : s2.sp.dirSize = s.sp.dirSize

theorem strip_eraseFiles (K : List Path) (ps : List Path) (hps : ∀ p ∈ ps, p ∈ K) : ∀ fs : FS,
    strip K (ps.foldl (fun fs p => if fs.isFile p then fs.erase p else fs) fs) = strip K fs := by
  induction ps with
  | nil => intro fs; rfl
  | cons p r ih =>
    intro fs
    simp only [List.foldl]
    rw [ih (fun x hx => hps x (List.mem_cons_of_mem _ hx))]
    split
    · exact strip_erase K fs p (hps p (List.mem_cons_self ..))
    · rfl

theorem strip_erased (K : List Path) (fs : FS) (cf : Path) (outputs : List Path) (ho : ∀ p ∈ outputs, p ∈ K) (hcf : cf ∈ K) :
    strip K (BuildDirs.erased fs cf outputs) = strip K fs := by
  unfold BuildDirs.erased
  simp only
  split
  · rw [strip_erase K _ cf hcf, strip_eraseFiles K outputs ho]
  · rw [strip_eraseFiles K outputs ho]

/-- **clean after a fresh build gives back the tree the build started from — as a list** -/
theorem preClean_recovers (w1 w0 : FS) (cf : Path) (r : Rec) (hwf : BuildDirs.TreeWF w0)
    (hfresh : ∀ k ∈ r.outputs ++ r.createdDirs ++ [cf], w0.get k = none)
    (hstrip : strip (r.outputs ++ r.createdDirs ++ [cf]) w1 = w0)
    (hfiles : ∀ p ∈ r.outputs, w1.isFile p = true) (hcf : w1.isFile cf = true)
    (hdirs : ∀ d ∈ r.createdDirs, w1.isDir d = true) : preClean w1 cf r = w0 := by
  have hroot : ([] : Path) ∉ r.outputs ++ r.createdDirs ++ [cf] := by
    intro hm
    have := hfresh [] hm
    rw [get_nil] at this; cases this
  have hKo : ∀ p ∈ r.outputs, p ∈ r.outputs ++ r.createdDirs ++ [cf] := fun p hp => by simp [hp]
  have hKd : ∀ p ∈ r.createdDirs, p ∈ r.outputs ++ r.createdDirs ++ [cf] := fun p hp => by simp [hp]
  have hKc : cf ∈ r.outputs ++ r.createdDirs ++ [cf] := by simp
  -- `preClean` only removes entries under the build's keys
  have h2 : strip (r.outputs ++ r.createdDirs ++ [cf]) (preClean w1 cf r) = w0 := by
    rw [BuildDirs.preClean_eq, strip_rmEmpty _ _ _ hKd, strip_erased _ _ _ _ hKo hKc, hstrip]
  -- ... and it removes all of them
  have herased := BuildDirs.erased_get w1 cf r.outputs
  have hfile_gone : ∀ k, k ∈ r.outputs ++ [cf] → (preClean w1 cf r).get k = none := by
    intro k hk
    have hkf : w1.isFile k = true := by
      rcases List.mem_append.mp hk with h | h
      · exact hfiles k h
      · simp at h; rw [h]; exact hcf
    have hnf : ¬ (preClean w1 cf r).isFile k = true := fun hh => ((BuildDirs.preClean_isFile_iff w1 cf r k).mp hh).2 hk
    rcases C12_preClean_frame w1 cf r k with h | ⟨h, _⟩
    · exfalso; apply hnf
      rw [FS.isFile_congr h]; exact hkf
    · exact h
  have hdir_gone : ∀ d ∈ r.createdDirs, (preClean w1 cf r).get d = none := by
    rw [BuildDirs.preClean_eq]
    apply Rollback.rmEmpty_removes (fun d => d ∈ r.createdDirs) (BuildDirs.erased w1 cf r.outputs) r.createdDirs
    · intro d hd
      refine ⟨fun e => hroot (e ▸ hKd d hd), Or.inr ?_⟩
      have hdd := hdirs d hd
      have hg : w1.get d = some .dir := by
        unfold FS.isDir at hdd
        cases hg : w1.get d with
        | none => simp [hg] at hdd
        | some e => cases e with
          | dir => rfl
          | file c m => simp [hg] at hdd
      rw [herased]
      have : w1.isFile d = false := by simp [FS.isFile, hg]
      simp [this, hg]
    · intro d hd n hn
      -- an entry of a created directory that survives the erasing is a created directory
      have hex1 : w1.get (d ++ [n]) ≠ none := by
        intro e; apply hn; rw [herased]; split
        · rfl
        · exact e
      by_cases hcK : (d ++ [n]) ∈ r.outputs ++ r.createdDirs ++ [cf]
      · rcases List.mem_append.mp hcK with h | h
        · rcases List.mem_append.mp h with h' | h'
          · exfalso; apply hn; rw [herased]; simp [h', hfiles _ h']
          · exact h'
        · simp at h
          exfalso; apply hn; rw [herased, h]; simp [hcf]
      · exfalso
        cases hg : w1.get (d ++ [n]) with
        | none => exact hex1 hg
        | some e =>
          have hm := mem_of_get w1 _ e (by simp) hg
          have hm0 : (d ++ [n], e) ∈ w0 := by
            rw [← hstrip]; unfold strip
            exact List.mem_filter.mpr ⟨hm, by simpa using hcK⟩
          have hsome := get_isSome_of_mem w0 _ e hm0
          have hpar := hwf (d ++ [n]) (by simp) (by intro e0; rw [e0] at hsome; cases hsome)
          rw [show (d ++ [n]).dropLast = d by simp] at hpar
          have := hfresh d (hKd d hd)
          simp [FS.isDir, this] at hpar
    · intro d hd _; exact hd
  have hnone : ∀ k ∈ r.outputs ++ r.createdDirs ++ [cf], (preClean w1 cf r).get k = none := by
    intro k hk
    rcases List.mem_append.mp hk with h | h
    · rcases List.mem_append.mp h with h' | h'
      · exact hfile_gone k (by simp [h'])
      · exact hdir_gone k h'
    · exact hfile_gone k (by simp at h; simp [h])
  rw [← strip_self_of_none _ _ hroot hnone, h2]

def Op.isSimple : Op → Bool
  | .simple _ _ _ _ => true
  | _ => false

/-- records as a flat program produces them: queries, and calls whose own records hold queries only -/
def Op.flatShape : Op → Bool
  | .simple _ _ _ _ => true
  | .buildFile _ _ _ _ _ subs _ _ _ _ _ => subs.all Op.isSimple
  | .subbuild _ _ _ subs _ _ _ => subs.all Op.isSimple

def topKeys : List Op → List H
  | [] => []
  | .subbuild f a k _ _ false false :: r => subKey f a k :: topKeys r
  | _ :: r => topKeys r

structure FirstFacts (s s2 : KSt) (ops : List Op) : Prop where
  shape : ∀ o ∈ ops, o.flatShape = true
  outs : ∀ p ∈ topOuts ops, (∃ c m, s2.sp.fs.get p = some (.file c m)) ∧ p ∈ s2.sp.claimedFiles ∧ p ≠ s.sp.cacheFile
  claimed : ∀ p ∈ s2.sp.claimedFiles, p ∈ s.sp.claimedFiles ∨ p ∈ topOuts ops


theorem preClean_nothing (fs : FS) (cf : Path) (name : String) (h : fs.get cf = none) :
    preClean fs cf { buildName := name, outputs := [], createdDirs := [] } = fs := by
  have hf : fs.isFile cf = false := by simp [FS.isFile, h]
  simp [preClean, hf, rmEmpty]

theorem buildStart_shelf_get (w : KWorld) (cf : Path) (versions : List (String × Json)) (old : CacheRec) (cds : List Path)
    (p : Path) (hp : p ≠ []) :
    FS.get (Impl.buildStart w cf versions [] [] old cds).shelf p =
      if p ∈ old.toRec.outputs then (match w.fs.get p with | some (.file b m) => some (.file b m) | _ => none) else none := by
  unfold Impl.buildStart
  simp only
  generalize old.toRec.outputs = L
  induction L with
  | nil => simp [FS.get, hp]
  | cons q r ih =>
    by_cases hqp : q = p
    · subst hqp
      cases hg : w.fs.get q with
      | none => simp only [List.filterMap_cons, hg]; rw [ih]; simp [hg]
      | some e =>
        cases e with
        | dir => simp only [List.filterMap_cons, hg]; rw [ih]; simp [hg]
        | file b m => simp [List.filterMap_cons, hg, FS.get, hp]
    · have hne : ¬ p = q := fun e => hqp e.symm
      cases hg : w.fs.get q with
      | none => simp only [List.filterMap_cons, hg]; rw [ih]; simp [hne]
      | some e =>
        cases e with
        | dir => simp only [List.filterMap_cons, hg]; rw [ih]; simp [hne]
        | file b m =>
          simp only [List.filterMap_cons, hg, FS.get, hp, if_false, hqp]
          rw [ih]; simp [hne]

/-- the record a committing build writes -/
def writtenRec (name : String) (versions : List (String × Json)) (ops : List Op) (s2 : KSt) (cds : List Path) : CacheRec :=
  { buildName := name, roots := ops.filter isComplexRegistered, createdDirs := Spec.dedup (s2.sp.createdDirs.reverse ++ cds),
    versions := versions }

/-- the world a committing build leaves -/
def nextWorld (w : KWorld) (cf : Path) (s2 : KSt) (r : CacheRec) : KWorld :=
  { w with fs := s2.sp.fs.write cf (cacheToken w.nextSerial) 0, recs := (w.nextSerial, r) :: w.recs, nextSerial := w.nextSerial + 1, clock := s2.sp.clock }

theorem buildGo_ok (w : KWorld) (cf : Path) (name : String) (versions : List (String × Json)) (root : Prog) (old : CacheRec)
    (cds : List Path) (s2 : KSt) (ops : List Op) (v : Json)
    (hcds : dirsToMake (visible (Impl.buildStart w cf versions [] [] old []).sp) cf [] cf.dropLast = .ok cds)
    (hrun : Impl.run root none (Impl.buildStart w cf versions [] [] old cds) = (.ok v, s2, ops)) :
    Impl.buildGo w cf name versions root [] [] 0 old =
      { res := .ok v,
        world := nextWorld w cf s2 (writtenRec name versions ops s2 cds),
        invLog := s2.sp.invLog.reverse, written := some (writtenRec name versions ops s2 cds), claimed := s2.sp.claimedFiles } := by
  rw [Impl.buildGo_dirs (ab := 0) hcds]
  simp only [hrun, Spec.rootRes]
  rfl

theorem buildGo_invLog_res (w : KWorld) (cf : Path) (name : String) (versions : List (String × Json)) (root : Prog) (old : CacheRec)
    (cds : List Path)
    (hcds : dirsToMake (visible (Impl.buildStart w cf versions [] [] old []).sp) cf [] cf.dropLast = .ok cds) :
    (Impl.buildGo w cf name versions root [] [] 0 old).invLog =
      (Impl.run root none (Impl.buildStart w cf versions [] [] old cds)).2.1.sp.invLog.reverse ∧
    (∀ v, (Impl.run root none (Impl.buildStart w cf versions [] [] old cds)).1 = .ok v →
      (Impl.buildGo w cf name versions root [] [] 0 old).res = .ok v) := by
  rw [Impl.buildGo_dirs (ab := 0) hcds]
  generalize Impl.run root none (Impl.buildStart w cf versions [] [] old cds) = R
  obtain ⟨r0, s2, ops⟩ := R
  cases r0 with
  | ok v => exact ⟨rfl, fun v' h => by rw [← h]; rfl⟩
  | error e => exact ⟨rfl, fun v' h => nomatch h⟩

/-- the empty record a build starts from when there is no cache file -/
def noRec (name : String) (versions : List (String × Json)) : CacheRec := { buildName := name, versions := versions }

theorem buildStart_noRec_fs (w : KWorld) (cf : Path) (name : String) (versions : List (String × Json)) (cds : List Path)
    (h : w.fs.get cf = none) : (Impl.buildStart w cf versions [] [] (noRec name versions) cds).sp.fs = mkdirs w.fs cds := by
  show mkdirs (preClean w.fs cf (noRec name versions).toRec) cds = _
  have : (noRec name versions).toRec = { buildName := name, outputs := [], createdDirs := [] } := rfl
  rw [this, preClean_nothing _ _ _ h]

theorem writtenRec_outputs (name : String) (versions : List (String × Json)) (ops : List Op) (s2 : KSt) (cds T : List Path)
    (h : CacheRec.outputs { buildName := name, roots := ops.filter isComplexRegistered } = T) :
    (writtenRec name versions ops s2 cds).toRec.outputs = Spec.dedup T := by
  show Spec.dedup (CacheRec.outputs _) = _
  unfold CacheRec.outputs at h ⊢
  exact congrArg Spec.dedup h

/-- the state in which the root function starts in the build that follows a committing first build -/
def nextStart (w : KWorld) (cf : Path) (name : String) (versions : List (String × Json)) (prog : Prog) (ops : List Op)
    (s2 : KSt) (cds : List Path) : KSt :=
  Impl.buildStart (Impl.build w cf name versions prog).world cf versions [] [] (writtenRec name versions ops s2 cds) cds

/-- **from the end of a first build to the start of the next.**  A first build (no cache file) whose root function
    returned `v` in state `s2` and whose cache file lists `T` as outputs: if all it did to the tree is to insert
    entries under `T`, under the directories it recorded and under `cds`, the outputs being files and the directories
    directories, on a tree that held none of these paths — then it returns `v`; the pre-clean of the next build
    recovers the start tree, so that the next build starts its root function in a state that looks the same, with
    the first build's outputs on the shelf, and reports what a run from that state gives. -/
theorem rebuild_start (w : KWorld) (cf : Path) (name : String) (versions : List (String × Json)) (prog : Prog)
    (hwf : BuildDirs.TreeWF w.fs) (hnocache : w.fs.get cf = none) (cds : List Path)
    (hcds : dirsToMake (visible (Impl.buildStart w cf versions [] [] (noRec name versions) []).sp) cf [] cf.dropLast = .ok cds)
    (v : Json) (s2 : KSt) (ops : List Op)
    (hrun : Impl.run prog none (Impl.buildStart w cf versions [] [] (noRec name versions) cds) = (.ok v, s2, ops))
    (T : List Path) (houts : (writtenRec name versions ops s2 cds).toRec.outputs = Spec.dedup T)
    (hT : ∀ p ∈ T, (∃ c m, s2.sp.fs.get p = some (.file c m)) ∧ p ∈ s2.sp.claimedFiles ∧ p ≠ cf)
    (hstrip : ∀ K : List Path, (∀ p ∈ T, p ∈ K) → (∀ d ∈ s2.sp.createdDirs, d ∈ K) →
      strip K s2.sp.fs = strip K (mkdirs w.fs cds))
    (hdirs : ∀ d, (d ∈ s2.sp.createdDirs ∨ d ∈ cds) → s2.sp.fs.isDir d = true ∧ d ≠ cf)
    (hfresh : ∀ k, (k ∈ s2.sp.claimedFiles ∨ k ∈ s2.sp.createdDirs ∨ k ∈ cds ∨ k = cf) → w.fs.get k = none) :
    (Impl.build w cf name versions prog).res = .ok v ∧
    Same (Impl.buildStart w cf versions [] [] (noRec name versions) cds) (nextStart w cf name versions prog ops s2 cds) ∧
    (∀ p, (p ∈ T ∨ s2.sp.fs.get p = none) → p ≠ [] → p ≠ cf →
      (nextStart w cf name versions prog ops s2 cds).shelf.get p = s2.sp.fs.get p) ∧
    (Impl.build (Impl.build w cf name versions prog).world cf name versions prog).invLog =
      (Impl.run prog none (nextStart w cf name versions prog ops s2 cds)).2.1.sp.invLog.reverse ∧
    (∀ v', (Impl.run prog none (nextStart w cf name versions prog ops s2 cds)).1 = .ok v' →
      (Impl.build (Impl.build w cf name versions prog).world cf name versions prog).res = .ok v') := by
  have hcs : w.cacheState cf = .absent := by simp [KWorld.cacheState, hnocache]
  have hb1 : Impl.build w cf name versions prog = Impl.buildGo w cf name versions prog [] [] 0 (noRec name versions) := by
    simp [Impl.build, hcs, noRec]
  have hcfne : cf ≠ [] := by intro e; rw [e, get_nil] at hnocache; cases hnocache
  have hs1fs := buildStart_noRec_fs w cf name versions cds hnocache
  unfold nextStart
  rw [hb1, buildGo_ok w cf name versions prog (noRec name versions) cds s2 ops v hcds hrun]
  refine ⟨rfl, ?_⟩
  simp only
  generalize hw1 : nextWorld w cf s2 (writtenRec name versions ops s2 cds) = w1
  have hw1fs : w1.fs = s2.sp.fs.set cf (.file (cacheToken w.nextSerial) 0) := by rw [← hw1]; rfl
  have hw1ds : w1.dirSize = w.dirSize := by rw [← hw1]; rfl
  have hcs1 : w1.cacheState cf = .valid (writtenRec name versions ops s2 cds) := by
    rw [← hw1]
    simp [KWorld.cacheState, nextWorld, FS.write, get_set_self _ _ _ hcfne]
  have hb2 : Impl.build w1 cf name versions prog =
      Impl.buildGo w1 cf name versions prog [] [] 0 (writtenRec name versions ops s2 cds) := by
    simp [Impl.build, hcs1, writtenRec]
  rw [hb2]
  have hcd : (writtenRec name versions ops s2 cds).toRec.createdDirs = Spec.dedup (s2.sp.createdDirs.reverse ++ cds) := rfl
  generalize hK : (writtenRec name versions ops s2 cds).toRec.outputs ++ (writtenRec name versions ops s2 cds).toRec.createdDirs ++ [cf] = K
  have hKfresh : ∀ k ∈ K, w.fs.get k = none := by
    intro k hk
    rw [← hK, houts, hcd] at hk
    apply hfresh
    rcases List.mem_append.mp hk with h | h
    · rcases List.mem_append.mp h with h' | h'
      · exact Or.inl (hT k ((mem_dedup _ _).mp h')).2.1
      · rcases List.mem_append.mp ((mem_dedup _ _).mp h') with h'' | h''
        · exact Or.inr (Or.inl (List.mem_reverse.mp h''))
        · exact Or.inr (Or.inr (Or.inl h''))
    · exact Or.inr (Or.inr (Or.inr (List.mem_singleton.mp h)))
  have hKT : ∀ p ∈ T, p ∈ K := by intro p hp; rw [← hK, houts]; simp [mem_dedup, hp]
  have hKd : ∀ d ∈ s2.sp.createdDirs, d ∈ K := by intro d hd; rw [← hK, hcd]; simp [mem_dedup, hd]
  have hKc : ∀ d ∈ cds, d ∈ K := by intro d hd; rw [← hK, hcd]; simp [mem_dedup, hd]
  have hpre : preClean w1.fs cf (writtenRec name versions ops s2 cds).toRec = w.fs := by
    apply preClean_recovers w1.fs w.fs cf _ hwf (by rw [hK]; exact hKfresh)
    · -- everything the build did is an insertion under its own keys
      rw [hK, hw1fs, strip_set _ _ cf _ (by rw [← hK]; simp), hstrip K hKT hKd, strip_mkdirs _ cds hKc]
      apply strip_self_of_none _ _ _ hKfresh
      intro hm
      have := hKfresh [] hm
      rw [get_nil] at this; cases this
    · intro p hp
      rw [houts] at hp
      obtain ⟨⟨c, m, hg⟩, _, hne⟩ := hT p ((mem_dedup _ _).mp hp)
      rw [hw1fs]
      simp [FS.isFile, get_set_ne _ _ _ _ hne, hg]
    · rw [hw1fs]; simp [FS.isFile, get_set_self _ _ _ hcfne]
    · intro d hd
      rw [hcd] at hd
      have hd' : d ∈ s2.sp.createdDirs ∨ d ∈ cds := by
        rcases List.mem_append.mp ((mem_dedup _ _).mp hd) with h | h
        · exact Or.inl (List.mem_reverse.mp h)
        · exact Or.inr h
      obtain ⟨h1, h2⟩ := hdirs d hd'
      rw [hw1fs]
      unfold FS.isDir at h1 ⊢
      rw [get_set_ne _ _ _ _ h2]; exact h1
  have hsp0 : (Impl.buildStart w cf versions [] [] (noRec name versions) []).sp.fs = w.fs := by
    rw [buildStart_noRec_fs w cf name versions [] hnocache]; rfl
  have hsp0' : (Impl.buildStart w1 cf versions [] [] (writtenRec name versions ops s2 cds) []).sp.fs = w.fs := by
    show mkdirs (preClean w1.fs cf (writtenRec name versions ops s2 cds).toRec) [] = _
    rw [hpre]; rfl
  have hvis : visible (Impl.buildStart w1 cf versions [] [] (writtenRec name versions ops s2 cds) []).sp =
      visible (Impl.buildStart w cf versions [] [] (noRec name versions) []).sp := by
    unfold Spec.visible
    rw [hsp0, hsp0']
    rfl
  have hcds' : dirsToMake (visible (Impl.buildStart w1 cf versions [] [] (writtenRec name versions ops s2 cds) []).sp) cf []
      cf.dropLast = .ok cds := by rw [hvis]; exact hcds
  obtain ⟨hinv2, hres2⟩ := buildGo_invLog_res w1 cf name versions prog (writtenRec name versions ops s2 cds) cds hcds'
  have hs1'fs : (Impl.buildStart w1 cf versions [] [] (writtenRec name versions ops s2 cds) cds).sp.fs = mkdirs w.fs cds := by
    show mkdirs (preClean w1.fs cf (writtenRec name versions ops s2 cds).toRec) cds = _
    rw [hpre]
  refine ⟨⟨by rw [hs1'fs, hs1fs], rfl, hw1ds, rfl, rfl, rfl, rfl, rfl, rfl, rfl⟩, ?_, hinv2, hres2⟩
  intro p hp hpne hpcf
  have hw1g : w1.fs.get p = s2.sp.fs.get p := by rw [hw1fs, get_set_ne _ _ _ _ hpcf]
  rw [buildStart_shelf_get w1 cf versions _ cds p hpne, houts, hw1g]
  rcases hp with hp | hp
  · obtain ⟨⟨c, m, hg⟩, _, _⟩ := hT p hp
    simp [mem_dedup, hp, hg]
  · rw [hp]; simp

def fxW : KWorld := { fs := [], clock := 7 }

theorem fx_first_sets : (Impl.run exRoot none fxS).2.1.sp.claimedFiles = [["x"]] ∧ (Impl.run exRoot none fxS).2.1.sp.createdDirs = [] :=
  ⟨fx_run.2.2.2.1, fx_run.2.2.2.2.1⟩

theorem fxW_start : Impl.buildStart fxW ["c"] [] [] [] (noRec "n" []) [] = fxS := by
  simp [Impl.buildStart, noRec, fxS, fxW, CacheRec.toRec, CacheRec.outputs, registeredL, Spec.dedup, preClean, rmEmpty, mkdirs,
    FS.isFile, FS.get]

/-- what the two-build theorems assume about the world and the first run, for a program whose run on the empty tree
    returns `null` having claimed `x` and made no directory -/
theorem fxW_hyps {prog : Prog} (hcl : (Impl.run prog none fxS).2.1.sp.claimedFiles = [["x"]])
    (hcd : (Impl.run prog none fxS).2.1.sp.createdDirs = []) (hres : (Impl.run prog none fxS).1 = .ok .null) :
    BuildDirs.TreeWF fxW.fs ∧ fxW.fs.get ["c"] = none ∧
    dirsToMake (visible (Impl.buildStart fxW ["c"] [] [] [] (noRec "n" []) []).sp) ["c"] [] (["c"] : Path).dropLast = .ok [] ∧
    Impl.run prog none (Impl.buildStart fxW ["c"] [] [] [] (noRec "n" []) []) =
      (.ok .null, (Impl.run prog none fxS).2.1, (Impl.run prog none fxS).2.2) ∧
    (∀ k, (k ∈ (Impl.run prog none fxS).2.1.sp.claimedFiles ∨ k ∈ (Impl.run prog none fxS).2.1.sp.createdDirs ∨
      k ∈ ([] : List Path) ∨ k = ["c"]) → fxW.fs.get k = none) := by
  refine ⟨fun p hp hg => by simp [fxW, FS.get, hp] at hg, by simp [fxW, FS.get], by rw [dirsToMake]; simp,
    by rw [fxW_start, ← hres], ?_⟩
  intro k hk
  rw [hcl, hcd] at hk
  have hkne : k ≠ [] := by
    rcases hk with h | h | h | h
    · rw [List.mem_singleton.mp h]; simp
    · cases h
    · cases h
    · rw [h]; simp
  simp [fxW, FS.get, hkne]

end FB

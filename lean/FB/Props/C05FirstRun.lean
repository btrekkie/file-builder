/-
  A run against an empty cache with no injected faults, as a derivation: one rule for each way a statement of the
  program can go (a query, a write, a `build_file` whose set-up fails or whose function runs, a `subbuild` that is a
  duplicate or whose function runs).  A rule hands over what is known at that point: the set-up result, that the
  function and the rest of the caller start in first-run states again, what each of the two sub-runs keeps, and the
  equations that tie them to `Impl.run`.  A fact about first runs is then an induction over the derivation.
-/
import FB.Props.C05Call
namespace FB
open FS Spec Impl

structure First (s : KSt) : Prop where
  old : s.old.roots = []
  ff : s.sp.failFiles = []
  fsb : s.sp.failSubs = []

/-- `FirstRun prog t s r e ops`: running `prog` (inside the call with target `t`, if any) from the first-run state `s`
    returns `r`, ends in `e` and records `ops` -/
inductive FirstRun : Prog → Option Path → KSt → CallRes → KSt → List Op → Prop
  | ret (v : PyVal) (t : Option Path) (s : KSt) :
      FirstRun (.ret v) t s (match sanitize v with | some j => .ok j | none => .error .typeErr) s []
  | raise (e : Exc) (t : Option Path) (s : KSt) : FirstRun (.raise e) t s (.error e) s []
  | query (q : Query) (k : UAns → Prog) (t : Option Path) (s : KSt) (v : Json) (e : Option OSErr)
      {r : CallRes} {s2 : KSt} {ops : List Op}
      (hrec : recordOf s.sp.dirSize (visible s.sp) q = .simple q v e (View.answer s.sp.dirSize (visible s.sp) q)) :
      FirstRun (k (View.answer s.sp.dirSize (visible s.sp) q)) t s r s2 ops →
      FirstRun (.query q k) t s r s2 (.simple q v e (View.answer s.sp.dirSize (visible s.sp) q) :: ops)
  | writeOut (b : String) (mt : Option Nat) (k : Prog) (s : KSt) {r : CallRes} {s2 : KSt} {ops : List Op} :
      FirstRun k none s r s2 ops → FirstRun (.write b mt k) none s r s2 ops
  | writeIn (b : String) (mt : Option Nat) (k : Prog) (p : Path) (s : KSt) {r : CallRes} {s2 : KSt} {ops : List Op} :
      FirstRun k (some p)
        (liftSp s fun sp => { sp with pending := (p, b, mt.getD sp.clock) :: sp.pending, clock := sp.clock + 1 }) r s2 ops →
      FirstRun (.write b mt k) (some p) s r s2 ops
  | bfSetupFail (path : Path) (cmp : Cmp) (fname : String) (args kwargs : Json) (body : Prog) (k : CallRes → Prog)
      (t : Option Path) (s : KSt) (e : Exc) {r : CallRes} {s2 : KSt} {ops : List Op}
      (hsetup : bfSetup s.sp path = .error e) :
      FirstRun (k (.error e)) t (liftSp s fun sp => Spec.setupFailState sp path e) r s2 ops →
      FirstRun (.buildFile path cmp fname args kwargs body k) t s r s2
        (.buildFile path cmp fname args kwargs [] .null .null true true "" :: ops)
  | bfMiss (path : Path) (cmp : Cmp) (fname : String) (args kwargs : Json) (body : Prog) (k : CallRes → Prog)
      (t : Option Path) (s : KSt) (sp1 : SpecSt) (made : List Path) (rb : CallRes) (sb : KSt) (subs : List Op)
      (r : CallRes) (s2 : KSt) (ops : List Op) (s1 s3 : KSt)
      (hs1 : s1 = missStart (afterSetup s sp1 path made) path ⟨fname, some path, args, kwargs⟩)
      (hs3 : s3 = withSp sb (bfFinish sb.sp path made rb).2)
      (hf : First s) (hsetup : bfSetup s.sp path = .ok (sp1, made))
      (hout : Impl.run body (some path) s1 = (rb, sb, subs))
      (hrest : Impl.run (k (bfFinish sb.sp path made rb).1) t s3 = (r, s2, ops))
      (hf1 : First s1) (hkb : FirstKeeps s1 sb) (hf3 : First s3) (hkr : FirstKeeps s3 s2) :
      FirstRun body (some path) s1 rb sb subs →
      FirstRun (k (bfFinish sb.sp path made rb).1) t s3 r s2 ops →
      FirstRun (.buildFile path cmp fname args kwargs body k) t s r s2
        (execFileOp path cmp fname args kwargs subs rb (bfFinish sb.sp path made rb).1 s3 :: ops)
  | sbDup (fname : String) (args kwargs : Json) (body : Prog) (k : CallRes → Prog) (t : Option Path) (s : KSt)
      {r : CallRes} {s2 : KSt} {ops : List Op}
      (hcl : s.sp.claimedSubs.any (heq (subKey fname args kwargs)) = true) :
      FirstRun (k (.error (.runtime .dupSub))) t s r s2 ops →
      FirstRun (.subbuild fname args kwargs body k) t s r s2 (.subbuild fname args kwargs [] .null true true :: ops)
  | sbMiss (fname : String) (args kwargs : Json) (body : Prog) (k : CallRes → Prog) (t : Option Path) (s : KSt)
      (rb : CallRes) (sb : KSt) (subs : List Op) (r : CallRes) (s2 : KSt) (ops : List Op) (s1 : KSt)
      (hs1 : s1 = Impl.subStart (subClaim s (subKey fname args kwargs)) ⟨fname, none, args, kwargs⟩)
      (hf : First s) (hcl : s.sp.claimedSubs.any (heq (subKey fname args kwargs)) = false)
      (hout : Impl.run body none s1 = (rb, sb, subs)) (hrest : Impl.run (k rb) t sb = (r, s2, ops))
      (hkb : FirstKeeps s1 sb) (hf3 : First sb) (hkr : FirstKeeps sb s2) :
      FirstRun body none s1 rb sb subs →
      FirstRun (k rb) t sb r s2 ops →
      FirstRun (.subbuild fname args kwargs body k) t s r s2 (execSubOp fname args kwargs subs rb :: ops)

theorem firstRun (prog : Prog) : ∀ (t : Option Path) (s : KSt), First s →
    FirstRun prog t s (Impl.run prog t s).1 (Impl.run prog t s).2.1 (Impl.run prog t s).2.2 := by
  induction prog with
  | ret v => intro t s _; rw [run_ret]; exact .ret v t s
  | raise e => intro t s _; exact .raise e t s
  | query q k ih =>
    intro t s hf
    have := ih (View.answer s.sp.dirSize (visible s.sp) q) t s hf
    obtain ⟨v, e, hrec⟩ := recordOf_simple s.sp.dirSize (visible s.sp) q
    rw [run_query q k t s, show queryOp s q = recordOf s.sp.dirSize (visible s.sp) q from rfl, hrec]
    exact .query q k t s v e hrec this
  | write b mt k ih =>
    intro t s hf
    cases t with
    | none => exact .writeOut b mt k s (ih none s hf)
    | some p => exact .writeIn b mt k p s (ih (some p) _ ⟨hf.old, hf.ff, hf.fsb⟩)
  | buildFile path cmp fname args kwargs body k ihb ihk =>
    intro t s hf
    cases hsetup : bfSetup s.sp path with
    | error e =>
      have := ihk (.error e) t (liftSp s fun sp => Spec.setupFailState sp path e)
        ⟨hf.old, by simp only [liftSp, setupFailState, hf.ff]; split <;> rfl, hf.fsb⟩
      rw [run_buildFile_refused hsetup]
      exact .bfSetupFail path cmp fname args kwargs body k t s e hsetup this
    | ok x =>
      obtain ⟨sp1, made⟩ := x
      obtain ⟨hsp1, _, _, _, _, _⟩ := bfSetup_ok_fields s.sp sp1 path made hsetup
      rw [run_bf_first s t path cmp fname args kwargs body k sp1 made hf.old hsetup]
      have hf1 : First (missStart (afterSetup s sp1 path made) path ⟨fname, some path, args, kwargs⟩) :=
        ⟨hf.old, by show sp1.failFiles = []; rw [hsp1]; exact hf.ff, by show sp1.failSubs = []; rw [hsp1]; exact hf.fsb⟩
      have hkb := run_keeps body (some path) _ hf1.old hf1.ff hf1.fsb
      have hb := ihb (some path) _ hf1
      generalize hout : Impl.run body (some path) (missStart (afterSetup s sp1 path made) path ⟨fname, some path, args, kwargs⟩) = out
        at hkb hb ⊢
      obtain ⟨rb, sb, subs⟩ := out
      obtain ⟨_, hk2, hk3⟩ := bfFinish_keeps sb.sp path made rb
      have hf3 : First (withSp sb (bfFinish sb.sp path made rb).2) :=
        ⟨by show sb.old.roots = []; rw [hkb.old]; exact hf.old,
         by show (bfFinish _ path made rb).2.failFiles = []; rw [hk2]; exact hkb.ff,
         by show (bfFinish _ path made rb).2.failSubs = []; rw [hk3]; exact hkb.fsb⟩
      exact .bfMiss path cmp fname args kwargs body k t s sp1 made rb sb subs _ _ _ _ _ rfl rfl hf hsetup hout rfl hf1 hkb hf3
        (run_keeps _ t _ hf3.old hf3.ff hf3.fsb) hb (ihk _ t _ hf3)
  | subbuild fname args kwargs body k ihb ihk =>
    intro t s hf
    cases hcl : s.sp.claimedSubs.any (heq (subKey fname args kwargs)) with
    | true =>
      have := ihk (.error (.runtime .dupSub)) t s hf
      rw [run_subbuild_dup hcl]
      exact .sbDup fname args kwargs body k t s hcl this
    | false =>
      rw [run_sb_first s t fname args kwargs body k hf.old hf.fsb hcl]
      have hkb := run_keeps body none (Impl.subStart (subClaim s (subKey fname args kwargs)) ⟨fname, none, args, kwargs⟩)
        hf.old hf.ff hf.fsb
      have hb := ihb none (Impl.subStart (subClaim s (subKey fname args kwargs)) ⟨fname, none, args, kwargs⟩)
        ⟨hf.old, hf.ff, hf.fsb⟩
      generalize hout : Impl.run body none (Impl.subStart (subClaim s (subKey fname args kwargs)) ⟨fname, none, args, kwargs⟩) = out
        at hkb hb ⊢
      obtain ⟨rb, sb, subs⟩ := out
      have hf3 : First sb := ⟨by rw [hkb.old]; exact hf.old, hkb.ff, hkb.fsb⟩
      exact .sbMiss fname args kwargs body k t s rb sb subs _ _ _ _ rfl hf hcl hout rfl hkb hf3 (run_keeps _ t _ hf3.old hf3.ff hf3.fsb) hb
        (ihk rb t sb hf3)

theorem firstRun_of_eq {prog : Prog} {t : Option Path} {s e : KSt} {r : CallRes} {ops : List Op}
    (h : Impl.run prog t s = (r, e, ops)) (hf : First s) : FirstRun prog t s r e ops := by
  have := firstRun prog t s hf
  rw [h] at this
  exact this

end FB

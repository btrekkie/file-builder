/-
  C07 — cache identity is JSON equality of name and arguments (model: `subKey` = `Cache.subbuild_key`,
  `lookupFile`'s `is_equal` tests).  The path-spelling half (`_sanitize_filename`) is `FB.PathNorm`.
-/
import FB.Props.C18
import FB.Lemmas.ImplRun
namespace FB

/-- **C07 (subbuild)**: two subbuild calls resolve to the same cache entry (equal keys, Python `==` on
    the hashable forms) if and only if they have the same function name and JSON-equal positional and
    keyword arguments. -/
theorem C07_subkey_iff (f f' : String) (a a' k k' : Json)
    (ha : a.wf = true) (ha' : a'.wf = true) (hk : k.wf = true) (hk' : k'.wf = true) :
    heq (subKey f a k) (subKey f' a' k') = (decide (f = f') && isEqual a a' && isEqual k k') := by
  unfold subKey
  rw [toHashable_iff (.arr [.str f, a, k]) (by simp [Json.wf, Json.wfL, ha, hk])
    (.arr [.str f', a', k']) (by simp [Json.wf, Json.wfL, ha', hk'])]
  simp only [isEqual, isEqualL, Bool.and_true, Bool.and_assoc]
  rw [beq_eq_decide]

/-- **C07 (build_file)**: a cached `build_file` record is only considered for a call with the same
    function name and JSON-equal arguments (the path is the lookup key itself). -/
theorem C07_lookupFile_needs_equal_args (s : KSt) (path : Path) (cmp : Cmp) (fname : String)
    (args kwargs : Json) (made : List Path) (op : Op) (s2 : KSt)
    (h : Impl.lookupFile s path cmp fname args kwargs made = some (op, s2)) :
    ∃ rcmp rfname rargs rkwargs subs ret cmpRes sf content,
      s.old.getFile path = some (.buildFile path rcmp rfname rargs rkwargs subs ret cmpRes false sf content) ∨
      (∃ q, s.old.getFile path = some (.buildFile q rcmp rfname rargs rkwargs subs ret cmpRes false sf content) ∧
        rfname = fname ∧ isEqual rargs args = true ∧ isEqual rkwargs kwargs = true) := by
  obtain ⟨q, rcmp, rargs, rkwargs, subs, ret, cmpRes, sf, content, _, hget, _, ha, hk, _⟩ :=
    lookupFile_full _ _ _ _ _ _ _ _ _ h
  exact ⟨rcmp, fname, rargs, rkwargs, subs, ret, cmpRes, sf, content, .inr ⟨q, hget, rfl, ha, hk⟩⟩

/-- the collision cases the property names -/
example :
    heq (subKey "f" (.arr [.num (.int 1)]) (.obj [])) (subKey "f" (.arr [.num (.flt ⟨1, 0, false⟩)]) (.obj [])) = true ∧
    heq (subKey "f" (.arr [.bool true]) (.obj [])) (subKey "f" (.arr [.num (.int 1)]) (.obj [])) = false ∧
    heq (subKey "f" (.arr [.arr [.num (.int 1)]]) (.obj [])) (subKey "f" (.arr [.bool true]) (.obj [])) = false ∧
    heq (subKey "f" (.arr []) (.obj [("a", .num (.int 1)), ("b", .null)]))
        (subKey "f" (.arr []) (.obj [("b", .null), ("a", .num (.int 1))])) = true ∧
    heq (subKey "f" (.arr [.arr [.num (.int 1), .num (.int 2)]]) (.obj []))
        (subKey "f" (.arr [.arr [.num (.int 2), .num (.int 1)]]) (.obj [])) = false := by decide

end FB

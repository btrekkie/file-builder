/-
  C01 over whole histories: builds with arbitrary programs and version maps (committing, raising, or failing
  at the cache write), cleans, and arbitrary external changes of the tree between them.  In every step the
  cache logic returns what the from-scratch semantics returns, and the two trees stay equal up to
  modification times — provided each build's old cache is valid for its program (`CacheOK`; by
  `cacheOK_next` this follows from `Stable` and `FaithfulRec`).
-/
import FB.Props.C01Step
namespace FB
open FS Spec

def RecsSim (a : List (Nat × Rec)) (b : List (Nat × CacheRec)) : Prop :=
  List.Forall₂ (fun x y => x.1 = y.1 ∧ RecSim x.2 y.2) a b

/-- the invariant between the from-scratch world and the world of the cache logic.  `dsz` fixes the directory size
    `ds` the records are judged with (`Follows ds`), `dirSize` says the two worlds have the same -/
structure HInv (ds : Nat) (w : World) (kw : KWorld) : Prop where
  fs : FS.Sim w.fs kw.fs
  dsz : w.dirSize = ds
  dirSize : w.dirSize = kw.dirSize
  nextSerial : w.nextSerial = kw.nextSerial
  recs : RecsSim w.recs kw.recs

theorem find_corr {a : List (Nat × Rec)} {b : List (Nat × CacheRec)} (h : RecsSim a b) (tok : String) :
    (a.find? (fun x => cacheToken x.1 == tok) = none ∧ b.find? (fun x => cacheToken x.1 == tok) = none) ∨
    (∃ x y, a.find? (fun x => cacheToken x.1 == tok) = some x ∧ b.find? (fun x => cacheToken x.1 == tok) = some y ∧
      RecSim x.2 y.2) := by
  induction h with
  | nil => left; simp
  | @cons x y l l' hxy _ ih =>
    simp only [List.find?_cons]
    rw [← hxy.1]
    by_cases hc : (cacheToken x.1 == tok) = true
    · simp only [hc]
      right; exact ⟨x, y, rfl, rfl, hxy.2⟩
    · have hc' : (cacheToken x.1 == tok) = false := by simpa using hc
      simp only [hc']
      exact ih

theorem cacheState_cases {ds : Nat} {w : World} {kw : KWorld} (h : HInv ds w kw) (cf : Path) :
    (w.cacheState cf = .absent ∧ kw.cacheState cf = .absent) ∨
    (w.cacheState cf = .isDir ∧ kw.cacheState cf = .isDir) ∨
    (w.cacheState cf = .corrupt ∧ kw.cacheState cf = .corrupt) ∨
    ∃ r kr, w.cacheState cf = .valid r ∧ kw.cacheState cf = .valid kr ∧ RecSim r kr := by
  unfold World.cacheState KWorld.cacheState
  rcases Entry.sim_cases (h.fs cf) with ⟨ha, hb⟩ | ⟨ha, hb⟩ | ⟨b, m, m', ha, hb⟩ <;> rw [ha, hb]
  · exact .inl ⟨rfl, rfl⟩
  · exact .inr (.inl ⟨rfl, rfl⟩)
  · dsimp only
    rcases find_corr h.recs b with ⟨h1, h2⟩ | ⟨x, y, h1, h2, h3⟩ <;> rw [h1, h2]
    · exact .inr (.inr (.inl ⟨rfl, rfl⟩))
    · exact .inr (.inr (.inr ⟨_, _, rfl, rfl, h3⟩))

/-- **C01, one build at any position of a history.** -/
theorem build_step {ds : Nat} (w : World) (kw : KWorld) (cf : Path) (name : String) (vs : List (String × Json))
    (root : Prog) (ab : Nat) (hinv : HInv ds w kw)
    (hok : ∀ kr, kw.cacheState cf = .valid kr → CacheOK ds kr vs root) :
    (Spec.build w cf name root [] [] ab).res = (Impl.build kw cf name vs root [] [] ab).res ∧
    HInv ds (Spec.build w cf name root [] [] ab).world (Impl.build kw cf name vs root [] [] ab).world := by
  have hgo : ∀ (r : Rec) (old : CacheRec), RecSim r old → CacheOK ds old vs root →
      (Spec.buildGo w cf name root [] [] ab r).res = (Impl.buildGo kw cf name vs root [] [] ab old).res ∧
      HInv ds (Spec.buildGo w cf name root [] [] ab r).world (Impl.buildGo kw cf name vs root [] [] ab old).world := by
    intro r old hrs hok'
    obtain ⟨h1, h2, h3, h4, h5, h6⟩ := buildGo_step w kw cf name vs root ab r old hinv.fs hinv.dirSize hinv.nextSerial hrs
      (by rw [hinv.dsz]; exact hok')
    refine ⟨h1, h2, ?_, h3, h4, ?_⟩
    · have : (Spec.buildGo w cf name root [] [] ab r).world.dirSize = w.dirSize := by
        unfold Spec.buildGo
        simp only
        split
        · rfl
        · split
          · rfl
          · rfl
      rw [this]; exact hinv.dsz
    · cases hres : (Spec.buildGo w cf name root [] [] ab r).res with
      | error e =>
        obtain ⟨ha, hb⟩ := h5 e hres
        rw [ha, hb]; exact hinv.recs
      | ok v =>
        obtain ⟨r', ops, created, rr, ww, ha, hb, hrs', _⟩ := (h6 v hres).ex
        rw [ha, hb]
        exact List.Forall₂.cons ⟨hinv.nextSerial, hrs'⟩ hinv.recs
  unfold Spec.build Impl.build
  rcases cacheState_cases hinv cf with ⟨ha, hb⟩ | ⟨ha, hb⟩ | ⟨ha, hb⟩ | ⟨r, kr, ha, hb, hrs⟩ <;> rw [ha, hb]
  · exact hgo _ _ (RecSim.empty _ _) (CacheOK.empty _ _ _ _ _)
  · exact ⟨rfl, hinv⟩
  · exact ⟨rfl, hinv⟩
  · simp only
    rw [hrs.name]
    by_cases hn : kr.buildName = name
    · rw [if_pos hn, if_pos hn]
      exact hgo r kr hrs (hok kr hb)
    · rw [if_neg hn, if_neg hn]
      exact ⟨rfl, hinv⟩

/-- ghost table: the program of the build that wrote the record with a given serial number -/
abbrev Progs := List (Nat × Prog)

/-- every record in the table was written by a build whose records follow its program -/
def HValid (ds : Nat) (kw : KWorld) (pg : Progs) : Prop :=
  ∀ x ∈ kw.recs, ∃ root0, (x.1, root0) ∈ pg ∧ ∃ name ops created vs rr ww,
    x.2 = newRec name ops created vs ∧ Follows ds root0 none ops rr ww

def nextProgs (pg : Progs) (kw : KWorld) (root : Prog) (res : CallRes) : Progs :=
  match res with
  | .ok _ => (kw.nextSerial, root) :: pg
  | .error _ => pg

theorem build_step_valid {ds : Nat} (w : World) (kw : KWorld) (pg : Progs) (cf : Path) (name : String)
    (vs : List (String × Json)) (root : Prog) (ab : Nat) (hinv : HInv ds w kw) (hval : HValid ds kw pg)
    (hok : ∀ kr, kw.cacheState cf = .valid kr → CacheOK ds kr vs root) :
    HValid ds (Impl.build kw cf name vs root [] [] ab).world
      (nextProgs pg kw root (Impl.build kw cf name vs root [] [] ab).res) := by
  have hkeep : ∀ res, HValid ds kw (nextProgs pg kw root res) := by
    intro res x hx
    obtain ⟨root0, h1, h2⟩ := hval x hx
    refine ⟨root0, ?_, h2⟩
    unfold nextProgs
    split
    · exact List.mem_cons_of_mem _ h1
    · exact h1
  have hgo : ∀ (r : Rec) (old : CacheRec), RecSim r old → CacheOK ds old vs root →
      HValid ds (Impl.buildGo kw cf name vs root [] [] ab old).world
        (nextProgs pg kw root (Impl.buildGo kw cf name vs root [] [] ab old).res) := by
    intro r old hrs hok'
    obtain ⟨h1, _, _, _, h5, h6⟩ := buildGo_step w kw cf name vs root ab r old hinv.fs hinv.dirSize hinv.nextSerial hrs
      (by rw [hinv.dsz]; exact hok')
    rw [← h1]
    cases hres : (Spec.buildGo w cf name root [] [] ab r).res with
    | error e =>
      obtain ⟨_, hb⟩ := h5 e hres
      intro x hx; rw [hb] at hx; exact hval x hx
    | ok v =>
      obtain ⟨r', ops, created, rr, ww, _, hb, _, hfol⟩ := (h6 v hres).ex
      intro x hx
      rw [hb] at hx
      rcases List.mem_cons.mp hx with rfl | hx
      · exact ⟨root, List.mem_cons_self .., name, ops, created, vs, rr, ww, rfl, by rw [← hinv.dsz]; exact hfol⟩
      · obtain ⟨root0, h1', h2'⟩ := hval x hx
        exact ⟨root0, List.mem_cons_of_mem _ h1', h2'⟩
  unfold Impl.build
  rcases cacheState_cases hinv cf with ⟨-, hb⟩ | ⟨-, hb⟩ | ⟨-, hb⟩ | ⟨r, kr, -, hb, hrs⟩ <;> rw [hb]
  · exact hgo { buildName := name, outputs := [], createdDirs := [] } _ (RecSim.empty _ _) (CacheOK.empty _ _ _ _ _)
  · exact hkeep _
  · exact hkeep _
  · simp only
    split
    · exact hgo r kr hrs (hok kr hb)
    · exact hkeep _

theorem clean_step {ds : Nat} (w : World) (kw : KWorld) (cf : Path) (bn : Option String) (hinv : HInv ds w kw) :
    (Spec.clean w cf bn).res = (Impl.clean kw cf bn).res ∧
    HInv ds (Spec.clean w cf bn).world (Impl.clean kw cf bn).world ∧
    (Impl.clean kw cf bn).world.recs = kw.recs := by
  unfold Spec.clean Impl.clean
  rcases cacheState_cases hinv cf with ⟨ha, hb⟩ | ⟨ha, hb⟩ | ⟨ha, hb⟩ | ⟨r, kr, ha, hb, hrs⟩ <;> rw [ha, hb]
  · exact ⟨rfl, hinv, rfl⟩
  · exact ⟨rfl, hinv, rfl⟩
  · exact ⟨rfl, hinv, rfl⟩
  · simp only
    rw [hrs.name]
    split
    · exact ⟨rfl, hinv, rfl⟩
    · exact ⟨rfl, ⟨sim_preClean' hinv.fs cf r kr hrs, hinv.dsz, hinv.dirSize, hinv.nextSerial, hinv.recs⟩, rfl⟩

inductive Step where
  | build (name : String) (vs : List (String × Json)) (root : Prog) (abort : Nat)
  | clean (name : Option String)
  /-- an external change of the tree; it may do anything that does not depend on modification times of
      files it does not write (`SimPreserving`) -/
  | change (f : FS → FS)

def SimPreserving (f : FS → FS) : Prop := ∀ a b, FS.Sim a b → FS.Sim (f a) (f b)

def stepS (cf : Path) (w : World) : Step → World × Option CallRes
  | .build name _ root ab => let o := Spec.build w cf name root [] [] ab; (o.world, some o.res)
  | .clean bn => let o := Spec.clean w cf bn; (o.world, some o.res)
  | .change f => ({ w with fs := f w.fs }, none)

def stepK (cf : Path) (kw : KWorld) : Step → KWorld × Option CallRes
  | .build name vs root ab => let o := Impl.build kw cf name vs root [] [] ab; (o.world, some o.res)
  | .clean bn => let o := Impl.clean kw cf bn; (o.world, some o.res)
  | .change f => ({ kw with fs := f kw.fs }, none)

def runS (cf : Path) : World → List Step → List (Option CallRes)
  | _, [] => []
  | w, st :: rest => (stepS cf w st).2 :: runS cf (stepS cf w st).1 rest

def runK (cf : Path) : KWorld → List Step → List (Option CallRes)
  | _, [] => []
  | kw, st :: rest => (stepK cf kw st).2 :: runK cf (stepK cf kw st).1 rest

/-- the condition on the user's side, stated along the execution of the cache logic (`pg`: which program
    wrote which record): whenever a build finds a valid cache written by a build of program `root0`,
    function names still denote the same functions (`Stable`) and the recorded comparison results identify
    contents (`FaithfulRec`); external changes do not depend on modification times -/
def UserOK (ds : Nat) (cf : Path) : KWorld → Progs → List Step → Prop
  | _, _, [] => True
  | kw, pg, .build name vs root ab :: rest =>
    (∀ n kr root0, (n, kr) ∈ kw.recs → (n, root0) ∈ pg → kw.cacheState cf = .valid kr →
      Stable ds kr vs root0 root ∧ ∀ y ∈ registeredL kr.roots, FaithfulRec y) ∧
    UserOK ds cf (stepK cf kw (.build name vs root ab)).1
      (nextProgs pg kw root (Impl.build kw cf name vs root [] [] ab).res) rest
  | kw, pg, .clean bn :: rest => UserOK ds cf (stepK cf kw (.clean bn)).1 pg rest
  | kw, pg, .change f :: rest => SimPreserving f ∧ UserOK ds cf (stepK cf kw (.change f)).1 pg rest

/-- a cache found valid during the history is valid for the program of the build that finds it -/
theorem cacheOK_of_userOK {ds : Nat} {kw : KWorld} {pg : Progs} (cf : Path) (hval : HValid ds kw pg)
    (vs : List (String × Json)) (root : Prog)
    (h : ∀ n kr root0, (n, kr) ∈ kw.recs → (n, root0) ∈ pg → kw.cacheState cf = .valid kr →
      Stable ds kr vs root0 root ∧ ∀ y ∈ registeredL kr.roots, FaithfulRec y) :
    ∀ kr, kw.cacheState cf = .valid kr → CacheOK ds kr vs root := by
  intro kr hkr
  have hmem : ∃ n, (n, kr) ∈ kw.recs := by
    unfold KWorld.cacheState at hkr
    split at hkr
    · cases hkr
    · cases hkr
    · split at hkr
      · rename_i n r hfind
        injection hkr with hkr; subst hkr
        exact ⟨n, List.mem_of_find?_eq_some hfind⟩
      · cases hkr
  obtain ⟨n, hmem⟩ := hmem
  obtain ⟨root0, hpg, name, ops, created, vs0, rr, ww, hx, hfol⟩ := hval _ hmem
  simp only at hx hpg
  obtain ⟨hst, hfa⟩ := h n kr root0 hmem hpg hkr
  subst hx
  exact cacheOK_next hfol name created vs0 vs hst hfa

/-- **C01 over every history.**  Builds of arbitrary programs with arbitrary version maps that commit, raise,
    or fail at the cache write; cleans; external changes of the tree — in any order and number: the cache
    logic returns in every step what the from-scratch semantics returns (and, by `build_step`, the trees
    agree up to modification times after every step). -/
theorem history_refines {ds : Nat} (cf : Path) (steps : List Step) : ∀ (w : World) (kw : KWorld) (pg : Progs),
    HInv ds w kw → HValid ds kw pg → UserOK ds cf kw pg steps →
    runS cf w steps = runK cf kw steps := by
  induction steps with
  | nil => intro w kw pg _ _ _; rfl
  | cons st rest ih =>
    intro w kw pg hinv hval huser
    cases st with
    | build name vs root ab =>
      obtain ⟨hu1, hu2⟩ := huser
      have hok := cacheOK_of_userOK cf hval vs root hu1
      obtain ⟨hres, hinv'⟩ := build_step w kw cf name vs root ab hinv hok
      have hval' := build_step_valid w kw pg cf name vs root ab hinv hval hok
      simp only [runS, runK, stepS, stepK]
      rw [hres]
      congr 1
      exact ih _ _ _ hinv' hval' hu2
    | clean bn =>
      obtain ⟨hres, hinv', hrecs⟩ := clean_step w kw cf bn hinv
      simp only [runS, runK, stepS, stepK]
      rw [hres]
      congr 1
      exact ih _ _ pg hinv' (by intro x hx; rw [hrecs] at hx; exact hval x hx) huser
    | change f =>
      obtain ⟨hf, hu2⟩ := huser
      simp only [runS, runK, stepS, stepK]
      congr 1
      exact ih _ _ pg ⟨hf _ _ hinv.fs, hinv.dsz, hinv.dirSize, hinv.nextSerial, hinv.recs⟩ hval hu2

/-- the empty worlds satisfy the invariant: a history may start from any tree -/
theorem hinv_init (fs : FS) (ds : Nat) :
    HInv ds { fs := fs, dirSize := ds } { fs := fs, dirSize := ds } ∧ HValid ds { fs := fs, dirSize := ds } [] :=
  ⟨⟨FS.Sim.refl _, rfl, rfl, rfl, List.Forall₂.nil⟩, fun _ hx => nomatch hx⟩

end FB

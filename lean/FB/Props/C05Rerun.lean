/-
  C05 — "a rebuild re-runs only calls that raised last time" for flat programs: the second run of a flat program,
  in a state that looks the same, with the first run's records in the cache and its outputs on the shelf, invokes
  exactly the functions of the calls that raised in the first run (failures are never cached), in the same order,
  and returns the same value.
-/
import FB.Props.C05Flat
namespace FB
open FS Spec Impl

/-- a leaf function run from two states that show the same tree: same result, same records, and it has written
    into its target in the one run iff in the other -/
theorem leaf_lockstep {body : Prog} (h : Leaf body) : ∀ (t : Option Path) (a b : KSt),
    visible b.sp = visible a.sp → b.sp.dirSize = a.sp.dirSize →
    (Impl.run body t b).1 = (Impl.run body t a).1 ∧ (Impl.run body t b).2.2 = (Impl.run body t a).2.2 ∧
    ∃ (Wa Wb : List (Path × String × Nat)) (ca cb : Nat),
      (Impl.run body t a).2.1 = setPC a (Wa ++ a.sp.pending) ca ∧ (Impl.run body t b).2.1 = setPC b (Wb ++ b.sp.pending) cb ∧
      (Wa = [] ↔ Wb = []) ∧ (∀ x ∈ Wa, some x.1 = t) ∧ (∀ x ∈ Wb, some x.1 = t) := by
  induction h with
  | ret v =>
    intro t a b _ _
    simp only [Impl.run]
    split <;> exact ⟨rfl, rfl, [], [], a.sp.clock, b.sp.clock, rfl, rfl, Iff.rfl, (fun x hx => nomatch hx), (fun x hx => nomatch hx)⟩
  | raise e =>
    intro t a b _ _
    simp only [Impl.run]
    exact ⟨trivial, trivial, [], [], a.sp.clock, b.sp.clock, rfl, rfl, Iff.rfl, (fun x hx => nomatch hx), (fun x hx => nomatch hx)⟩
  | query q k _ ih =>
    intro t a b hv hd
    simp only [Impl.run]
    rw [hv, hd]
    obtain ⟨h1, h2, Wa, Wb, ca, cb, h3, h4, h5, h6, h7⟩ := ih (View.answer a.sp.dirSize (visible a.sp) q) t a b hv hd
    exact ⟨h1, by rw [h2], Wa, Wb, ca, cb, h3, h4, h5, h6, h7⟩
  | write bytes mt k _ ih =>
    intro t a b hv hd
    cases t with
    | none => simp only [Impl.run]; exact ih none a b hv hd
    | some p =>
      simp only [Impl.run]
      obtain ⟨h1, h2, Wa, Wb, ca, cb, h3, h4, h5, h6, h7⟩ := ih (some p)
        (liftSp a fun sp => { sp with pending := (p, bytes, mt.getD sp.clock) :: sp.pending, clock := sp.clock + 1 })
        (liftSp b fun sp => { sp with pending := (p, bytes, mt.getD sp.clock) :: sp.pending, clock := sp.clock + 1 }) hv hd
      refine ⟨h1, h2, Wa ++ [(p, bytes, mt.getD a.sp.clock)], Wb ++ [(p, bytes, mt.getD b.sp.clock)], ca, cb, ?_, ?_, ?_, ?_, ?_⟩
      · rw [h3]; simp [setPC, liftSp]
      · rw [h4]; simp [setPC, liftSp]
      · simp
      · intro x hx
        rcases List.mem_append.mp hx with hx | hx
        · exact h6 x hx
        · simp at hx; rw [hx]
      · intro x hx
        rcases List.mem_append.mp hx with hx | hx
        · exact h7 x hx
        · simp at hx; rw [hx]

/-- the invocations a rebuild has to repeat: the calls that raised (newest first, like `invLog`) -/
def rerunInvs : List Op → List Inv
  | [] => []
  | .buildFile p _ f a k _ _ _ true false _ :: r => rerunInvs r ++ [⟨f, some p, a, k⟩]
  | .subbuild f a k _ _ true false :: r => rerunInvs r ++ [⟨f, none, a, k⟩]
  | _ :: r => rerunInvs r

/-- the targets of all `build_file` calls that got past their set-up -/
def allTargets : List Op → List Path
  | [] => []
  | .buildFile p _ _ _ _ _ _ _ _ false _ :: r => p :: allTargets r
  | _ :: r => allTargets r

theorem pendingFind_all_key (W : List (Path × String × Nat)) (path : Path) (hW : ∀ x ∈ W, some x.1 = some path) :
    pendingFind W path = none ↔ W = [] := by
  cases W with
  | nil => simp [pendingFind]
  | cons x r =>
    have hx : x.1 = path := by have := hW x (List.mem_cons_self ..); simpa using this
    obtain ⟨p, b, m⟩ := x
    simp only at hx
    subst hx
    simp [pendingFind_cons_self]

/-- a `build_file` whose function failed fails alike in both runs -/
theorem bfFinish_fail_same (sp sp' : SpecSt) (path : Path) (made : List Path) (r : CallRes) (e : Exc)
    (Wa Wb : List (Path × String × Nat)) (hp : sp.pending = Wa) (hp' : sp'.pending = Wb)
    (hiff : Wa = [] ↔ Wb = []) (hWa : ∀ x ∈ Wa, some x.1 = some path)
    (h : (bfFinish sp path made r).1 = .error e) :
    (bfFinish sp' path made r).1 = .error e ∧
    (bfFinish sp path made r).2 = failSt sp path made ∧ (bfFinish sp' path made r).2 = failSt sp' path made := by
  have h' := bfFinish_fail_both sp sp' path made r e h fun hnone => by
    rw [hp', hiff.mp ((pendingFind_all_key Wa path hWa).mp (hp ▸ hnone))]; rfl
  exact ⟨h', bfFinish_error_state _ _ _ _ e h, bfFinish_error_state _ _ _ _ e h'⟩

theorem topOuts_bf_raised (p : Path) (c : Cmp) (f : String) (a k : Json) (subs : List Op) (r cr : Json) (sf : Bool) (ct : String) (l : List Op) :
    topOuts (.buildFile p c f a k subs r cr true sf ct :: l) = topOuts l := by cases sf <;> rfl

theorem topOuts_sub_allTargets (l : List Op) : ∀ p ∈ topOuts l, p ∈ allTargets l := by
  induction l with
  | nil => intro p hp; cases hp
  | cons o r ih =>
    intro p hp
    cases o with
    | simple _ _ _ _ => exact ih p hp
    | subbuild _ _ _ _ _ _ _ => exact ih p hp
    | buildFile q _ _ _ _ _ _ _ raised sf _ =>
      cases raised <;> cases sf
      · rcases List.mem_cons.mp hp with rfl | hp'
        · exact List.mem_cons_self ..
        · exact List.mem_cons_of_mem _ (ih p hp')
      · exact ih p hp
      · exact List.mem_cons_of_mem _ (ih p hp)
      · exact ih p hp

theorem filter_all_key (W : List (Path × String × Nat)) (path : Path) (hW : ∀ x ∈ W, some x.1 = some path) :
    W.filter (fun x => x.1 ≠ path) = [] := by
  apply List.filter_eq_nil_iff.mpr
  intro x hx
  have := hW x hx
  simp at this
  simp [this]

/-- corresponding points of the two runs, at the level of the root function (nothing pending) -/
structure SameP (s s' : KSt) : Prop where
  same : Same s s'
  pend : s.sp.pending = []
  pend' : s'.sp.pending = []

theorem FirstRun.flat_rerun {prog : Prog} {t : Option Path} {s e : KSt} {r : CallRes} {ops : List Op}
    (h : FirstRun prog t s r e ops) : t = none → Flat prog → ∀ s' : KSt, SameP s s' → (∀ f, versionOk s' f = true) →
    (∀ o ∈ ops, isComplexRegistered o = true → cachedIn s'.old o) → Antichain (allTargets ops) →
    (∀ p ∈ topOuts ops, s'.shelf.get p = e.sp.fs.get p) →
    (Impl.run prog none s').1 = r ∧ (Impl.run prog none s').2.1.sp.invLog = rerunInvs ops ++ s'.sp.invLog ∧
    SameP e (Impl.run prog none s').2.1 ∧
    (Impl.run prog none s').2.1.old = s'.old ∧ (Impl.run prog none s').2.1.newVersions = s'.newVersions := by
  induction h with
  | ret v t s => intro _ _ s' hsame _ _ _ _; rw [run_ret]; exact ⟨rfl, rfl, hsame, rfl, rfl⟩
  | raise x t s => intro _ _ s' hsame _ _ _ _; exact ⟨rfl, rfl, hsame, rfl, rfl⟩
  | query q k t s v x hrec _ ih =>
    intro ht hflat s' hsame hv hc hanti hsup
    subst ht
    cases hflat with
    | query _ _ hk =>
      have := ih rfl (hk _) s' hsame hv (fun o ho => hc o (List.mem_cons_of_mem _ ho)) hanti hsup
      rw [Impl.run_query, hsame.same.visible, hsame.same.dirSize]
      exact this
  | writeOut b mt k s _ ih =>
    intro _ hflat s' hsame hv hc hanti hsup
    cases hflat with
    | write _ _ _ hk => rw [run_write_none]; exact ih rfl hk s' hsame hv hc hanti hsup
  | writeIn b mt k p s _ _ => intro ht; cases ht
  | bfSetupFail path cmp fname args kwargs body k t s x hsetup _ ih =>
    intro ht hflat s' hsame hv hc hanti hsup
    subst ht
    cases hflat with
    | buildFile _ _ _ _ _ _ _ _ _ _ hk =>
      have hS := hsame.same
      rw [run_buildFile_refused (bfSetup_same_err hS path x hsetup)]
      have hsame1 : SameP (liftSp s fun sp => Spec.setupFailState sp path x) (liftSp s' fun sp => Spec.setupFailState sp path x) :=
        ⟨⟨hS.fs, hS.cacheFile, hS.dirSize, hS.claimedFiles, hS.claimedSubs, hS.inProg, setupFailState_failFiles _ _ _ hS.ff,
          setupFailState_failFiles _ _ _ hS.ff', hS.fsb, hS.fsb'⟩, hsame.pend, hsame.pend'⟩
      exact ih rfl (hk _) _ hsame1 (versionOk_keep rfl rfl hv) (fun o ho => hc o (List.mem_cons_of_mem _ ho)) hanti
        (by rw [topOuts_bf_raised] at hsup; exact hsup)
  | bfMiss path cmp fname args kwargs body k t s sp1 made rb sb subs r s2 ops s1 s3 hs1 hs3 hf hsetup hout hrest hf1 hkb hf3 hkr _ _ _ ihk =>
    subst hs1 hs3
    intro ht hflat s' hsame hv hc hanti hsup
    subst ht
    cases hflat with
    | buildFile _ _ _ _ _ _ _ hleaf hargs hkw hk =>
      have hS := hsame.same
      obtain ⟨rfl, _, _, _, _, _⟩ := bfSetup_ok_fields s.sp sp1 path made hsetup
      obtain ⟨hne, hmade, hpm, _⟩ := bfSetup_ok_made _ _ _ _ hsetup
      have hsetup' := bfSetup_same hS path _ made hsetup
      have hsame1 := hS.setup path made
      -- the leaf function in the first run, and (if it has to run again) in the second
      obtain ⟨_, hrep⟩ := leaf_run_replays hleaf (some path)
        (missStart (afterSetup s (setupState s.sp path made) path made) path ⟨fname, some path, args, kwargs⟩)
      have hrep' := hrep (afterSetup s' (setupState s'.sp path made) path made) hsame1.visible hsame1.dirSize
      obtain ⟨l1, l2, Wa, Wb, ca, cb, hsta, hstb, hiff, hWa, hWb⟩ := leaf_lockstep hleaf (some path)
        (missStart (afterSetup s (setupState s.sp path made) path made) path ⟨fname, some path, args, kwargs⟩)
        (missStart (afterSetup s' (setupState s'.sp path made) path made) path ⟨fname, some path, args, kwargs⟩)
        hsame1.visible hsame1.dirSize
      rw [show (missStart (afterSetup s (setupState s.sp path made) path made) path ⟨fname, some path, args, kwargs⟩).sp.pending = []
        from hsame.pend, List.append_nil] at hsta
      rw [show (missStart (afterSetup s' (setupState s'.sp path made) path made) path ⟨fname, some path, args, kwargs⟩).sp.pending = []
        from hsame.pend', List.append_nil] at hstb
      rw [hout] at hrep' l1 l2 hsta
      replace hsta : sb = _ := hsta
      have hshelf_rest : ∀ q, path ≠ q ∧ ¬ path <+: q ∧ ¬ q <+: path →
          ((clearWay s'.shelf path made).erase path).get q = s'.shelf.get q := fun q hq => by
        rw [get_erase_ne _ _ _ (fun e => hq.1 e.symm)]
        exact afterSetup_shelf s' (setupState s'.sp path made) path made hmade q (Or.inl hq.2.1) (Or.inl hq.2.2) hpm
      rcases callRes_cases (bfFinish sb.sp path made rb).1 with ⟨j, hfin⟩ | ⟨x, hfin⟩
      · -- the call succeeded in the first run: a hit in the second
        obtain ⟨c, m, _, _, hfinst⟩ := bfFinish_ok_inv sb.sp path made rb j hfin
        rw [hfin] at hc hanti hsup ihk ⊢
        rw [hfinst] at hc hanti hsup hkr ihk ⊢
        rw [execFileOp_ok _ _ _ _ _ _ _ _ _ _ _ _ hne] at hc hanti hsup ⊢
        rw [topOuts_bf_ok] at hsup
        have hfinal := hkr.files path c m (get_set_self _ _ _ hne) (hkb.claimed path (List.mem_cons_self ..))
        have hshelf' : (afterSetup s' (setupState s'.sp path made) path made).shelf.get path = some (.file c m) := by
          rw [afterSetup_shelf _ _ _ _ hmade path (Or.inr rfl) (Or.inr rfl) hpm, hsup path (List.mem_cons_self ..)]
          exact hfinal
        have hlook' := lookupFile_hit' (afterSetup s' (setupState s'.sp path made) path made) _ path cmp fname args kwargs made
          subs j (View.cmpResult cmp c m) c c m c m (hc _ (List.mem_cons_self ..) rfl) (hv fname) hargs hkw hne hshelf'
          (cmpResult_refl cmp c m) hrep' hshelf'
        rw [run_buildFile_hit hsetup' hlook']
        have hsame2 : Same sb (afterSetup s' (setupState s'.sp path made) path made) := by
          rw [hsta]; exact (hsame1.missStart_left _ _).setPC_left _ _
        have hsame3 : SameP (withSp sb (finOk sb.sp path made c m))
            (adopt (afterSetup s' (setupState s'.sp path made) path made) path made) :=
          ⟨hsame2.adopt path made c m hne hshelf',
            by show sb.sp.pending.filter (fun x => x.1 ≠ path) = []; rw [hsta]; exact filter_all_key Wa path hWa, hsame.pend'⟩
        have hanti' := List.pairwise_cons.mp (show Antichain (path :: allTargets ops) from hanti)
        exact ihk rfl (hk _) _ hsame3 (versionOk_keep rfl rfl hv) (fun o ho => hc o (List.mem_cons_of_mem _ ho)) hanti'.2
          (fun q hq => (hshelf_rest q (hanti'.1 q (topOuts_sub_allTargets _ q hq))).trans (hsup q (List.mem_cons_of_mem _ hq)))
      · -- the call raised in the first run: its function has to run again, and fails again
        rw [hfin] at hc hanti hsup ihk ⊢
        obtain ⟨kept, hop⟩ := execFileOp_error path cmp fname args kwargs subs rb x (withSp sb (bfFinish sb.sp path made rb).2)
        rw [hop] at hc hanti hsup ⊢
        rw [topOuts_bf_raised] at hsup
        have hlook' := lookupFile_raised (afterSetup s' (setupState s'.sp path made) path made) path cmp fname args kwargs made
          _ _ _ _ _ _ _ _ _ (hc _ (List.mem_cons_self ..) rfl)
        rw [run_buildFile_miss hsetup' hlook']
        simp only
        generalize Impl.run body (some path)
          (missStart (afterSetup s' (setupState s'.sp path made) path made) path ⟨fname, some path, args, kwargs⟩) = out' at l1 l2 hstb ⊢
        obtain ⟨f1, f2, f3⟩ := bfFinish_fail_same sb.sp out'.2.1.sp path made rb x Wa Wb (by rw [hsta]; rfl) (by rw [hstb]; rfl)
          hiff hWa hfin
        rw [show out'.1 = rb from l1, f1, f3]
        rw [f2] at ihk
        have hsame2 : Same sb out'.2.1 := by rw [hsta, hstb]; exact (hsame1.missStart _ _).setPC _ _ _ _
        have hsame3 : SameP (withSp sb (failSt sb.sp path made)) (withSp out'.2.1 (failSt out'.2.1.sp path made)) :=
          ⟨hsame2.failed path made,
            by show sb.sp.pending.filter (fun x => x.1 ≠ path) = []; rw [hsta]; exact filter_all_key Wa path hWa,
            by show out'.2.1.sp.pending.filter (fun x => x.1 ≠ path) = []; rw [hstb]; exact filter_all_key Wb path hWb⟩
        have hold3 : (withSp out'.2.1 (failSt out'.2.1.sp path made)).old = s'.old := by
          show out'.2.1.old = _; rw [hstb]; rfl
        have hnv3 : (withSp out'.2.1 (failSt out'.2.1.sp path made)).newVersions = s'.newVersions := by
          show out'.2.1.newVersions = _; rw [hstb]; rfl
        have hanti' := List.pairwise_cons.mp (show Antichain (path :: allTargets ops) from hanti)
        obtain ⟨i1, i2, i3, i4, i5⟩ := ihk rfl (hk _) _ hsame3 (versionOk_keep hold3 hnv3 hv)
          (fun o ho => by rw [hold3]; exact hc o (List.mem_cons_of_mem _ ho)) hanti'.2
          (fun q hq => by
            show out'.2.1.shelf.get q = _
            rw [hstb]
            exact (hshelf_rest q (hanti'.1 q (topOuts_sub_allTargets _ q hq))).trans (hsup q hq))
        refine ⟨i1, ?_, i3, i4.trans hold3, i5.trans hnv3⟩
        rw [i2]
        show _ ++ out'.2.1.sp.invLog = (rerunInvs _ ++ [⟨fname, some path, args, kwargs⟩]) ++ s'.sp.invLog
        rw [hstb, List.append_assoc]
        rfl
  | sbDup fname args kwargs body k t s hcl _ ih =>
    -- a duplicate: rejected in both runs
    intro ht hflat s' hsame hv hc hanti hsup
    subst ht
    cases hflat with
    | subbuild _ _ _ _ _ _ hk =>
      rw [run_subbuild_dup (by rw [hsame.same.claimedSubs]; exact hcl)]
      exact ih rfl (hk _) s' hsame hv (fun o ho => hc o (List.mem_cons_of_mem _ ho)) hanti hsup
  | sbMiss fname args kwargs body k t s rb sb subs r s2 ops s1 hs1 hf hcl hout hrest hkb hf3 hkr _ _ _ ihk =>
    subst hs1
    intro ht hflat s' hsame hv hc hanti hsup
    subst ht
    cases hflat with
    | subbuild _ _ _ _ _ hleaf hk =>
      have hS := hsame.same
      have hcl' : s'.sp.claimedSubs.any (heq (subKey fname args kwargs)) = false := by rw [hS.claimedSubs]; exact hcl
      have hfs' : s'.sp.failSubs.any (heq (subKey fname args kwargs)) = false := by simp [hS.fsb']
      have hsame1 := hS.subClaim (subKey fname args kwargs)
      obtain ⟨_, hrep⟩ := leaf_run_replays hleaf none (Impl.subStart (subClaim s (subKey fname args kwargs)) ⟨fname, none, args, kwargs⟩)
      have hrep' := hrep (subClaim s' (subKey fname args kwargs)) hS.visible hS.dirSize
      obtain ⟨l1, l2, Wa, Wb, ca, cb, hsta, hstb, _, hWa, hWb⟩ := leaf_lockstep hleaf none
        (Impl.subStart (subClaim s (subKey fname args kwargs)) ⟨fname, none, args, kwargs⟩)
        (Impl.subStart (subClaim s' (subKey fname args kwargs)) ⟨fname, none, args, kwargs⟩) hS.visible hS.dirSize
      -- a function without a target writes nothing
      have hWa0 : Wa = [] := by
        cases Wa with
        | nil => rfl
        | cons x r => exact nomatch hWa x (List.mem_cons_self ..)
      have hWb0 : Wb = [] := by
        cases Wb with
        | nil => rfl
        | cons x r => exact nomatch hWb x (List.mem_cons_self ..)
      subst hWa0 hWb0
      rw [show (Impl.subStart (subClaim s (subKey fname args kwargs)) ⟨fname, none, args, kwargs⟩).sp.pending = [] from hsame.pend] at hsta
      rw [show (Impl.subStart (subClaim s' (subKey fname args kwargs)) ⟨fname, none, args, kwargs⟩).sp.pending = [] from hsame.pend'] at hstb
      rw [hout] at hrep' l1 l2 hsta
      replace hsta : sb = _ := hsta
      cases rb with
      | ok j =>
        -- returned in the first run: a hit in the second
        have hlook' := lookupSub_hit (subClaim s' (subKey fname args kwargs)) _ fname args kwargs subs j
          (hc _ (List.mem_cons_self ..) rfl) (hv fname) hrep'
        rw [run_subbuild_hit hcl' hfs' hlook']
        have hsame2 : SameP sb (subClaim s' (subKey fname args kwargs)) :=
          ⟨by rw [hsta]; exact (hsame1.subStart_left _).setPC_left _ _, by rw [hsta]; rfl, hsame.pend'⟩
        exact ihk rfl (hk _) _ hsame2 (versionOk_keep rfl rfl hv) (fun o ho => hc o (List.mem_cons_of_mem _ ho)) hanti hsup
      | error x =>
        -- raised in the first run: runs again
        have hlook' := lookupSub_raised (subClaim s' (subKey fname args kwargs)) fname args kwargs _ _ _ _ _ _
          (hc _ (List.mem_cons_self ..) rfl)
        rw [run_subbuild_miss hcl' hfs' hlook']
        simp only
        rw [show (Impl.run body none (Impl.subStart (subClaim s' (subKey fname args kwargs)) ⟨fname, none, args, kwargs⟩)).1 = .error x from l1]
        have hsame2 : SameP sb
            (Impl.run body none (Impl.subStart (subClaim s' (subKey fname args kwargs)) ⟨fname, none, args, kwargs⟩)).2.1 :=
          ⟨by rw [hsta, hstb]; exact (hsame1.subStart _).setPC _ _ _ _, by rw [hsta]; rfl, by rw [hstb]; rfl⟩
        obtain ⟨i1, i2, i3, i4, i5⟩ := ihk rfl (hk _) _ hsame2
          (versionOk_keep (by rw [hstb]; rfl) (by rw [hstb]; rfl) hv)
          (fun o ho => by rw [hstb]; exact hc o (List.mem_cons_of_mem _ ho)) hanti
          (fun q hq => by rw [hstb]; exact hsup q hq)
        refine ⟨i1, ?_, i3, ?_, ?_⟩
        · rw [i2, hstb]
          show _ ++ (⟨fname, none, args, kwargs⟩ :: s'.sp.invLog) = (rerunInvs _ ++ [⟨fname, none, args, kwargs⟩]) ++ s'.sp.invLog
          simp
        · rw [i4, hstb]; rfl
        · rw [i5, hstb]; rfl

/-- **C05 for flat programs, with failures**: the second run repeats exactly the calls that raised in the first -/
theorem flat_rerun {prog : Prog} (hflat : Flat prog) : ∀ (s s' : KSt),
    s.old.roots = [] → SameP s s' → (∀ f, versionOk s' f = true) →
    (∀ o ∈ (Impl.run prog none s).2.2, isComplexRegistered o = true → cachedIn s'.old o) →
    Antichain (allTargets (Impl.run prog none s).2.2) →
    (∀ p ∈ topOuts (Impl.run prog none s).2.2, s'.shelf.get p = (Impl.run prog none s).2.1.sp.fs.get p) →
    (Impl.run prog none s').1 = (Impl.run prog none s).1 ∧
    (Impl.run prog none s').2.1.sp.invLog = rerunInvs (Impl.run prog none s).2.2 ++ s'.sp.invLog ∧
    SameP (Impl.run prog none s).2.1 (Impl.run prog none s').2.1 ∧
    (Impl.run prog none s').2.1.old = s'.old ∧ (Impl.run prog none s').2.1.newVersions = s'.newVersions :=
  fun s s' h0 hsame => (firstRun prog none s ⟨h0, hsame.same.ff, hsame.same.fsb⟩).flat_rerun rfl hflat s' hsame

/-- with no call failing, nothing is repeated -/
theorem rerunInvs_ok (ops : List Op) (h : ∀ o ∈ ops, opOk o = true) : rerunInvs ops = [] := by
  induction ops with
  | nil => rfl
  | cons o r ih =>
    have ihr := ih (fun x hx => h x (List.mem_cons_of_mem _ hx))
    have ho := h o (List.mem_cons_self ..)
    cases o with
    | simple _ _ _ _ => simpa [rerunInvs] using ihr
    | buildFile _ _ _ _ _ _ _ _ raised sf _ =>
      simp only [opOk, Bool.and_eq_true, Bool.not_eq_true'] at ho
      obtain ⟨h1, h2⟩ := ho; subst h1 h2
      simpa [rerunInvs] using ihr
    | subbuild _ _ _ _ _ raised sf =>
      simp only [opOk, Bool.and_eq_true, Bool.not_eq_true'] at ho
      obtain ⟨h1, h2⟩ := ho; subst h1 h2
      simpa [rerunInvs] using ihr

example : rerunInvs [.buildFile ["x"] .hash "f" .null .null [] .null .null true false "", .subbuild "g" .null .null [] .null false false] =
    [⟨"f", some ["x"], .null, .null⟩] := rfl

/-! ### non-vacuity: a program whose only call raises; the second run repeats it -/

def rrRoot : Prog := .buildFile ["x"] .hash "f" .null .null (.raise (.user 1)) (fun _ => .ret .null)
theorem flat_rrRoot : Flat rrRoot := .buildFile _ _ _ _ _ _ _ (.raise _) (by simp [isEqual]) (by simp [isEqual]) (fun _ => .ret _)

theorem rr_first : (Impl.run rrRoot none fxS).2.2 = [.buildFile ["x"] .hash "f" .null .null [] .null .null true false ""] := by
  have h : dirsToMake (visible fxS.sp) fxS.sp.cacheFile fxS.sp.inProg [] = .ok [] := by rw [dirsToMake]; simp
  simp [rrRoot, Impl.run, bfSetup, fxS, FS.isDir, FS.get, lookupFile, CacheRec.getFile, registeredL,
    afterSetup, missStart, liftSp, sanitize, bfFinish, pendingFind, withSp, setupState, mkdirs,
    FS.isFile, FS.set, FS.erase, clearWay] at h ⊢
  rw [h]
  simp [pendingFind, bfFinish, withSp, sanitize]

def rrS' : KSt := { sp := { fs := [], cacheFile := ["c"], dirSize := 4096, clock := 50 },
                    old := { buildName := "n", roots := [.buildFile ["x"] .hash "f" .null .null [] .null .null true false ""] } }

/-- the hypotheses of `flat_rerun` are satisfiable with a call that raised: it is the one call repeated -/
example : (Impl.run rrRoot none rrS').2.1.sp.invLog = [⟨"f", some ["x"], .null, .null⟩] := by
  have hops := rr_first
  have h := flat_rerun flat_rrRoot fxS rrS' rfl ⟨⟨rfl, rfl, rfl, rfl, rfl, rfl, rfl, rfl, rfl, rfl⟩, rfl, rfl⟩
    (fun f => by simp [versionOk, rrS', verOf, isEqual])
    (by rw [hops]; intro o ho _; simp at ho; subst ho
        simp [cachedIn, rrS', CacheRec.getFile, registeredL, registered, Op.isFileAt])
    (by rw [hops]; simp [allTargets, Antichain])
    (by rw [hops]; intro p hp; simp [topOuts] at hp)
  rw [h.2.1, hops]
  rfl
end FB

/-
  C05 — REPLAY COMPLETENESS for record trees of any nesting depth.

  `replay_runF`: the record list of a first run is accepted again (`replayOps … = some _`), record by record and
  level by level, by any state that looks the same and whose shelf holds the run's outputs; the replay leaves that
  state looking like the state after the run.  Calls may have RAISED (their records are re-enacted by `unwind` when an
  enclosing record is reused); only set-up failures are excluded (`noSFL`: a record that contains one is never
  reusable).

  Hypotheses, all about the first run's record tree: its targets form an antichain under "is a prefix of" (no output
  is a directory of another - the documented obligation) and were absent from the tree the first run started on, and
  the shelf of the replaying state holds what the first run produced.  `fin` is the end state of the enclosing run:
  the shelf is compared with the outputs as they are at the very end, which `FirstKeeps e fin` ties to the state `e`
  in which the replayed records were finished.
-/
import FB.Props.C05Tree
namespace FB
open FS Spec Impl

mutual
/-- no call in the record tree failed in its set-up (duplicate, cache-file target, directory in the way, fault) -/
def noSF : Op → Bool
  | .simple _ _ _ _ => true
  | .buildFile _ _ _ _ _ subs _ _ _ sf _ => !sf && noSFL subs
  | .subbuild _ _ _ subs _ _ sf => !sf && noSFL subs
def noSFL : List Op → Bool
  | [] => true
  | o :: os => noSF o && noSFL os
end

theorem noSFL_cons (o : Op) (os : List Op) : noSFL (o :: os) = (noSF o && noSFL os) := by simp [noSFL]

mutual
theorem okDeep_noSF : ∀ o : Op, okDeep o = true → noSF o = true
  | .simple _ _ _ _, _ => rfl
  | .buildFile _ _ _ _ _ subs _ _ raised sf _, h => by
    simp only [okDeep, Bool.and_eq_true, Bool.not_eq_true'] at h
    simp only [noSF, h.1.2, okDeepL_noSFL subs h.2, Bool.not_false, Bool.and_self]
  | .subbuild _ _ _ subs _ raised sf, h => by
    simp only [okDeep, Bool.and_eq_true, Bool.not_eq_true'] at h
    simp only [noSF, h.1.2, okDeepL_noSFL subs h.2, Bool.not_false, Bool.and_self]
theorem okDeepL_noSFL : ∀ os : List Op, okDeepL os = true → noSFL os = true
  | [], _ => rfl
  | o :: os, h => by
    rw [okDeepL_cons, Bool.and_eq_true] at h
    rw [noSFL_cons, okDeep_noSF o h.1, okDeepL_noSFL os h.2]; rfl
end

theorem noSF_execFileOp (path : Path) (cmp : Cmp) (fname : String) (args kwargs : Json) (subs : List Op)
    (rb r' : CallRes) (s3 : KSt) (h : noSF (execFileOp path cmp fname args kwargs subs rb r' s3) = true) : noSFL subs = true := by
  unfold execFileOp at h
  cases r' <;> simpa [noSF] using h

theorem noSF_execSubOp (fname : String) (args kwargs : Json) (subs : List Op) (r : CallRes)
    (h : noSF (execSubOp fname args kwargs subs r) = true) : noSFL subs = true := by
  cases r <;> simpa [execSubOp, noSF] using h

/-- a `build_file` record whose call got past its set-up in `s`, the target absent, passes every test of `replayOp`
    in a state that looks the same (if the call returned: whose shelf holds the output): what remains is the replay
    of the nested records, from `replayS1` -/
theorem replayOp_bf_passes {s s' : KSt} (hsame : Same s s') {sp1 : SpecSt} {path : Path} {made : List Path}
    (hsetup : bfSetup s.sp path = .ok (sp1, made)) (habs : s.sp.fs.get path = none)
    (cmp : Cmp) (fname : String) (args kwargs : Json) (subs : List Op) (ret cmpRes : Json) (raised : Bool) (content : String)
    (hv : versionOk s' fname = true) (hom : raised = false → outputMatches s' path cmp cmpRes = true) :
    replayOp (.buildFile path cmp fname args kwargs subs ret cmpRes raised false content) s' =
      match replayOps subs (replayS1 s' path made raised) with
      | none => none
      | some s2 => if raised then some (unwind s2 path made) else some (adopt s2 path made) := by
  obtain ⟨_, hnc, hncf, _, hdm, _⟩ := bfSetup_ok_fields s.sp sp1 path made hsetup
  rw [← hsame.claimedFiles] at hnc
  rw [← hsame.cacheFile] at hncf
  rw [← hsame.fs] at habs
  rw [← hsame.visible, ← hsame.cacheFile, ← hsame.inProg] at hdm
  have hcl' : s'.sp.claimedFiles.contains path = false := by simpa using hnc
  have hcf' : (path == s'.sp.cacheFile) = false := by simpa using hncf
  have hom' : (!raised && !outputMatches s' path cmp cmpRes) = false := by
    cases raised
    · rw [hom rfl]; rfl
    · rfl
  rw [replayOp_buildFile]
  simp only [hv, hom', hcl', hcf', habs, hdm, (bfSetup_ok_made _ _ _ _ hsetup).2.2.2, Bool.not_true, Bool.false_eq_true,
    if_false, Bool.or_self, Option.isSome_none]
  rfl

theorem replayOp_execSubOp (s : KSt) (fname : String) (args kwargs : Json) (subs : List Op) (r : CallRes)
    (hv : versionOk s fname = true) (hcl : s.sp.claimedSubs.any (heq (subKey fname args kwargs)) = false) :
    replayOp (execSubOp fname args kwargs subs r) s = replayOps subs (subClaim s (subKey fname args kwargs)) := by
  cases r <;>
    simp only [execSubOp, replayOp_subbuild, hv, hcl, Bool.not_true, Bool.or_self, Bool.false_eq_true, if_false]

theorem shelf_filter_made (shelf : FS) (made : List Path) (q : Path) (hq : q ∉ made) :
    FS.get (shelf.filter (fun x => !(made.contains x.1))) q = FS.get shelf q := by
  apply get_filter_keep
  intro e
  simp [hq]

/-- the replay of a `build_file` record starts where the function started: the target was absent, so the set-up
    only made the directories -/
theorem Same.replayStart {s s' : KSt} (h : Same s s') {sp1 : SpecSt} {path : Path} {made : List Path}
    (hsetup : bfSetup s.sp path = .ok (sp1, made)) (habs : s.sp.fs.get path = none) (inv : Inv) (raised : Bool) :
    Same (Impl.missStart (afterSetup s sp1 path made) path inv) (replayS1 s' path made raised) := by
  obtain ⟨rfl, _⟩ := bfSetup_ok_fields s.sp sp1 path made hsetup
  have hfs := (setupState_fs_absent s.sp path made (bfSetup_ok_made _ _ _ _ hsetup).2.2.1 habs).2
  exact ⟨by show mkdirs s'.sp.fs made = (setupState s.sp path made).fs; rw [hfs, h.fs], h.cacheFile, h.dirSize,
    by show path :: s'.sp.claimedFiles = path :: s.sp.claimedFiles; rw [h.claimedFiles], h.claimedSubs,
    by show path :: s'.sp.inProg = path :: s.sp.inProg; rw [h.inProg], h.ff, h.ff', h.fsb, h.fsb'⟩

/-- what replaying the records of a run does to the replaying state, beyond `Same` -/
structure Replayed (s' s'' : KSt) (tg : List Path) : Prop where
  old : s''.old = s'.old
  nv : s''.newVersions = s'.newVersions
  inv : s''.sp.invLog = s'.sp.invLog
  shelf : ∀ q, (∀ p ∈ tg, ¬ q <+: p) → s''.shelf.get q = s'.shelf.get q

theorem Replayed.append {a b c : KSt} {t1 t2 : List Path} (h1 : Replayed a b t1) (h2 : Replayed b c t2) :
    Replayed a c (t1 ++ t2) :=
  ⟨h2.old.trans h1.old, h2.nv.trans h1.nv, h2.inv.trans h1.inv, fun q hq =>
    (h2.shelf q fun p hp => hq p (List.mem_append_right _ hp)).trans (h1.shelf q fun p hp => hq p (List.mem_append_left _ hp))⟩

/-- a replayed `build_file` record as a whole: its nested records were replayed from `st` (which differs from `s'`
    by the set-up: leftovers at the directories made are gone), then the target left the shelf (`e'.shelf`) -/
theorem Replayed.bf {s' st s2' e' : KSt} {t1 made : List Path} {path : Path} (h : Replayed st s2' t1)
    (h1 : st.old = s'.old) (h2 : st.newVersions = s'.newVersions) (h3 : st.sp.invLog = s'.sp.invLog)
    (h4 : ∀ q, q ∉ made → st.shelf.get q = s'.shelf.get q) (hmade : ∀ d ∈ made, d <+: path)
    (e1 : e'.old = s2'.old) (e2 : e'.newVersions = s2'.newVersions) (e3 : e'.sp.invLog = s2'.sp.invLog)
    (e4 : ∀ q, q ∉ made → q ≠ path → e'.shelf.get q = s2'.shelf.get q) : Replayed s' e' (t1 ++ [path]) := by
  refine ⟨(e1.trans h.old).trans h1, (e2.trans h.nv).trans h2, (e3.trans h.inv).trans h3, fun q hq => ?_⟩
  have hqp : ¬ q <+: path := hq path (by simp)
  have hqm : q ∉ made := fun hm => hqp (hmade q hm)
  rw [e4 q hqm (fun e => hqp (e ▸ List.prefix_refl _)), h.shelf q (fun p hp => hq p (List.mem_append_left _ hp))]
  exact h4 q hqm

/-- the targets around ONE `build_file` call whose function ran (nested in it, its own, those of the rest of the run:
    `t3`), unrelated by the prefix order and absent when the call started: the nested ones are absent when the
    function starts, its own when the function ends, the later ones after the call -/
theorem FirstRun.absent_call {body : Prog} {s sb : KSt} {sp1 : SpecSt} {path : Path} {made : List Path} {inv : Inv}
    {rb : CallRes} {subs : List Op} {t3 : List Path}
    (hb : FirstRun body (some path) (missStart (afterSetup s sp1 path made) path inv) rb sb subs)
    (hsetup : bfSetup s.sp path = .ok (sp1, made)) (hanti : Antichain ((targetsDeepL subs ++ [path]) ++ t3))
    (habs : ∀ p ∈ (targetsDeepL subs ++ [path]) ++ t3, s.sp.fs.get p = none) :
    (∀ p ∈ targetsDeepL subs, (missStart (afterSetup s sp1 path made) path inv).sp.fs.get p = none) ∧
    sb.sp.fs.get path = none ∧ (∀ p ∈ t3, (withSp sb (bfFinish sb.sp path made rb).2).sp.fs.get p = none) := by
  obtain ⟨rfl, _⟩ := bfSetup_ok_fields s.sp sp1 path made hsetup
  obtain ⟨_, hmade, hpm, _⟩ := bfSetup_ok_made _ _ _ _ hsetup
  obtain ⟨hsub_path, hrest_path, hrest_sub⟩ := hanti.call
  have hstart : ∀ p, p ≠ path ∧ ¬ p <+: path ∧ ¬ path <+: p → s.sp.fs.get p = none →
      (setupState s.sp path made).fs.get p = none :=
    fun p h1 h2 => setupState_absent _ _ _ _ h1.1 (fun hm => h1.2.1 (hmade p hm)) h2
  obtain ⟨hmk, hfs1⟩ := setupState_fs_absent s.sp path made hpm (habs path (by simp))
  refine ⟨fun p hp => hstart p (hsub_path p hp) (habs p (by simp [hp])), ?_, fun p hp => ?_⟩
  · exact hb.absent path (by show (setupState s.sp path made).fs.get path = none; rw [hfs1]; exact hmk)
      (fun p hp => (hsub_path p hp).2.2)
  · exact bfFinish_absent _ _ _ _ _ (hrest_path p hp).1
      (hb.absent p (hstart p (hrest_path p hp) (habs p (List.mem_append_right _ hp))) (fun p' hp' => (hrest_sub p hp p' hp').1))

/-- **replaying the record of ONE `build_file` call that returned**, in a state `s'` that looks like the state `s` in
    which the call started and whose shelf holds the file the call wrote.  `h2`: the nested records were replayed, from
    the state in which the replay of the record starts to `s2'`, which looks like the state `e1` in which the function
    ended.  Then the record is accepted and the file is adopted from the shelf. -/
theorem replay_bfReturned {s s' e1 s2' : KSt} {sp1 : SpecSt} {path : Path} {made : List Path} {ops1 : List Op}
    {r1 : CallRes} {j : Json} {c : String} {m : Nat} (cmp : Cmp) (fname : String) (args kwargs : Json)
    (hsame : Same s s') (hsetup : bfSetup s.sp path = .ok (sp1, made)) (habs : s.sp.fs.get path = none)
    (hv : versionOk s' fname = true) (hj : (bfFinish e1.sp path made r1).1 = .ok j)
    (hfin : (bfFinish e1.sp path made r1).2 = finOk e1.sp path made c m)
    (hshelf : s'.shelf.get path = some (.file c m)) (hsub : ∀ p ∈ targetsDeepL ops1, ¬ path <+: p)
    (h2 : replayOps ops1 (replayS1 s' path made false) = some s2' ∧ Same e1 s2' ∧
      Replayed (replayS1 s' path made false) s2' (targetsDeepL ops1)) :
    replayOp (execFileOp path cmp fname args kwargs ops1 r1 (bfFinish e1.sp path made r1).1
      (withSp e1 (bfFinish e1.sp path made r1).2)) s' = some (adopt s2' path made) ∧
    Same (withSp e1 (bfFinish e1.sp path made r1).2) (adopt s2' path made) ∧
    Replayed s' (adopt s2' path made) (targetsDeepL ops1 ++ [path]) := by
  obtain ⟨hrep, hsame2, hR⟩ := h2
  obtain ⟨hpne, hmade, hpm, _⟩ := bfSetup_ok_made _ _ _ _ hsetup
  have hom : outputMatches s' path cmp (View.cmpResult cmp c m) = true := by
    unfold outputMatches cmpShelf
    simp only [hshelf, hpne, if_false]
    exact cmpResult_refl cmp c m
  have hshelf2 : s2'.shelf.get path = some (.file c m) := by
    rw [hR.shelf path hsub]
    show FS.get (s'.shelf.filter (fun x => !(made.contains x.1))) path = _
    rw [shelf_filter_made _ _ _ hpm]; exact hshelf
  rw [hj, hfin]
  refine ⟨?_, hsame2.adopt path made c m hpne hshelf2, hR.bf rfl rfl rfl (fun q hq => shelf_filter_made _ _ _ hq) hmade
    rfl rfl rfl (fun q _ hq => get_erase_ne _ _ _ hq)⟩
  rw [execFileOp_ok _ _ _ _ _ _ _ _ _ _ _ _ hpne,
    replayOp_bf_passes hsame hsetup habs cmp fname args kwargs ops1 j _ false c hv (fun _ => hom), hrep]
  rfl

/-- **replaying the record of ONE `build_file` call that raised**: the record is re-enacted; after the nested records
    (`h2`) the directories made for the call that are empty go again, as they did when the call raised -/
theorem replay_bfRaised {s s' e1 s2' : KSt} {sp1 : SpecSt} {path : Path} {made : List Path} {ops1 : List Op}
    {r1 : CallRes} {x : Exc} (cmp : Cmp) (fname : String) (args kwargs : Json)
    (hsame : Same s s') (hsetup : bfSetup s.sp path = .ok (sp1, made)) (habs : s.sp.fs.get path = none)
    (hv : versionOk s' fname = true) (hfe : (bfFinish e1.sp path made r1).1 = .error x)
    (h2 : replayOps ops1 (replayS1 s' path made true) = some s2' ∧ Same e1 s2' ∧
      Replayed (replayS1 s' path made true) s2' (targetsDeepL ops1)) :
    replayOp (execFileOp path cmp fname args kwargs ops1 r1 (bfFinish e1.sp path made r1).1
      (withSp e1 (bfFinish e1.sp path made r1).2)) s' = some (unwind s2' path made) ∧
    Same (withSp e1 (bfFinish e1.sp path made r1).2) (unwind s2' path made) ∧
    Replayed s' (unwind s2' path made) (targetsDeepL ops1 ++ [path]) := by
  obtain ⟨hrep, hsame2, hR⟩ := h2
  obtain ⟨kept, hrec⟩ := execFileOp_error path cmp fname args kwargs ops1 r1 x (withSp e1 (bfFinish e1.sp path made r1).2)
  refine ⟨?_, ?_, hR.bf rfl rfl rfl (fun _ _ => rfl) (bfSetup_ok_made _ _ _ _ hsetup).2.1 rfl rfl rfl (fun q hq _ => ?_)⟩
  · rw [hfe, hrec, replayOp_bf_passes hsame hsetup habs cmp fname args kwargs ops1 kept .null true "" hv
      (fun h => nomatch h), hrep]
    rfl
  · rw [bfFinish_error_state _ _ _ _ x hfe]; exact (hsame2.failed path made).of_seen rfl rfl
  · show FS.get (s2'.shelf.filter _) q = _
    apply get_filter_keep
    intro e0
    simp [hq]

theorem FirstRun.replay {prog : Prog} {t : Option Path} {s e : KSt} {r : CallRes} {ops : List Op}
    (h : FirstRun prog t s r e ops) : ∀ s' fin : KSt, Same s s' → (∀ f ∈ fnamesDeepL ops, versionOk s' f = true) →
    noSFL ops = true → Antichain (targetsDeepL ops) → (∀ p ∈ targetsDeepL ops, s.sp.fs.get p = none) → FirstKeeps e fin →
    (∀ p ∈ targetsDeepL ops, s'.shelf.get p = fin.sp.fs.get p) →
    ∃ s'', replayOps ops s' = some s'' ∧ Same e s'' ∧ Replayed s' s'' (targetsDeepL ops) := by
  induction h with
  | ret v t s => intro s' fin hsame _ _ _ _ _ _; exact ⟨s', rfl, hsame, rfl, rfl, rfl, fun _ _ => rfl⟩
  | raise x t s => intro s' fin hsame _ _ _ _ _ _; exact ⟨s', rfl, hsame, rfl, rfl, rfl, fun _ _ => rfl⟩
  | query q k t s v x hrec _ ih =>
    intro s' fin hsame hv hok hanti habs hfin hsup
    have hrep : replayOp (recordOf s'.sp.dirSize (visible s'.sp) q) s' = some s' := replay_simple_complete s' q
    rw [hsame.visible, hsame.dirSize, hrec] at hrep
    obtain ⟨s'', h1, h2, h3⟩ := ih s' fin hsame hv hok hanti habs hfin hsup
    exact ⟨s'', by simp only [replayOps, hrep]; exact h1, h2, h3⟩
  | writeOut b mt k s _ ih => exact ih
  | writeIn b mt k p s _ ih =>
    intro s' fin hsame hv hok hanti habs hfin hsup
    exact ih s' fin (hsame.of_seen rfl rfl) hv hok hanti habs hfin hsup
  | bfSetupFail path cmp fname args kwargs body k t s x hsetup _ _ =>
    intro s' fin _ _ hok _ _ _ _
    simp [noSFL, noSF] at hok
  | bfMiss path cmp fname args kwargs body k t s sp1 made r1 e1 ops1 r e ops3 s1 s3 hs1 hs3 hf hsetup hb hk hf1 hkb hf3 hkr hd1 _ ihb ihk =>
    subst hs1 hs3
    intro s' fin hsame hv hok hanti habs hfin hsup
    rw [fnamesDeepL_cons, fnamesDeep_execFileOp] at hv
    rw [targetsDeepL_cons, targetsDeep_execFileOp] at hanti habs hsup ⊢
    rw [noSFL_cons, Bool.and_eq_true] at hok
    have hoksubs : noSFL ops1 = true := noSF_execFileOp _ _ _ _ _ _ _ _ _ hok.1
    obtain ⟨rfl, _⟩ := bfSetup_ok_fields s.sp sp1 path made hsetup
    obtain ⟨hpne, hmade, _, _⟩ := bfSetup_ok_made _ _ _ _ hsetup
    obtain ⟨hsub_path, _, _⟩ := hanti.call
    obtain ⟨habs1, hpath_out, habs3⟩ := hd1.absent_call hsetup hanti habs
    have habs_path : s.sp.fs.get path = none := habs path (by simp)
    have hfin3 := hkr.trans hfin
    have hfin2 : FirstKeeps e1 fin := (FirstKeeps.of_finish e1 path made r1 hpath_out hf3.ff hf3.fsb).trans hfin3
    have hv1 : ∀ raised, ∀ f ∈ fnamesDeepL ops1, versionOk (replayS1 s' path made raised) f = true :=
      fun _ f hf => (versionOk_congr rfl rfl f).trans (hv f (List.mem_append_left _ (List.mem_cons_of_mem _ hf)))
    have hvf : versionOk s' fname = true := hv fname (List.mem_append_left _ (List.mem_cons_self ..))
    have hsup1 : ∀ p ∈ targetsDeepL ops1, s'.shelf.get p = fin.sp.fs.get p :=
      fun p hp => hsup p (List.mem_append_left _ (List.mem_append_left _ hp))
    -- the nested records, then the record of the call itself
    have hcall : ∃ e', replayOp (execFileOp path cmp fname args kwargs ops1 r1 (bfFinish e1.sp path made r1).1
        (withSp e1 (bfFinish e1.sp path made r1).2)) s' = some e' ∧
        Same (withSp e1 (bfFinish e1.sp path made r1).2) e' ∧ Replayed s' e' (targetsDeepL ops1 ++ [path]) := by
      rcases callRes_cases (bfFinish e1.sp path made r1).1 with ⟨j, hj⟩ | ⟨x, hfe⟩
      · -- the call returned: the shelf still holds what it wrote
        obtain ⟨c, m, _, _, hfinOk⟩ := bfFinish_ok_inv e1.sp path made r1 j hj
        have hpath_fin : fin.sp.fs.get path = some (.file c m) :=
          hfin3.files path c m (by show (bfFinish _ path made r1).2.fs.get path = _; rw [hfinOk]; exact get_set_self _ _ _ hpne)
            (by show path ∈ (bfFinish _ path made r1).2.claimedFiles; rw [bfFinish_claimed]; exact hkb.claimed path (List.mem_cons_self ..))
        obtain ⟨s2', h2⟩ := ihb (replayS1 s' path made false) fin (hsame.replayStart hsetup habs_path _ false) (hv1 false)
          hoksubs hanti.left.left habs1 hfin2 (fun p hp => by
            show FS.get (s'.shelf.filter (fun x => !(made.contains x.1))) p = _
            rw [shelf_filter_made _ _ _ (fun hm => (hsub_path p hp).2.1 (hmade p hm))]
            exact hsup1 p hp)
        exact ⟨_, replay_bfReturned cmp fname args kwargs hsame hsetup habs_path hvf hj hfinOk
          ((hsup path (by simp)).trans hpath_fin) (fun p hp => (hsub_path p hp).2.2) h2⟩
      · obtain ⟨s2', h2⟩ := ihb (replayS1 s' path made true) fin (hsame.replayStart hsetup habs_path _ true) (hv1 true)
          hoksubs hanti.left.left habs1 hfin2 hsup1
        exact ⟨_, replay_bfRaised cmp fname args kwargs hsame hsetup habs_path hvf hfe h2⟩
    obtain ⟨e', hreplay, hsame3, hRa⟩ := hcall
    obtain ⟨s'', hrep3, hsame4, hR3⟩ := ihk e' fin hsame3
      (fun f hf => (versionOk_congr hRa.old hRa.nv f).trans (hv f (List.mem_append_right _ hf))) hok.2 hanti.right habs3 hfin
      (fun p hp => (hRa.shelf p (fun p' hp' => (Antichain.ne_of_mem_append hanti hp' hp).2.2)).trans
        (hsup p (List.mem_append_right _ hp)))
    exact ⟨s'', by simp only [replayOps, hreplay]; exact hrep3, hsame4, hRa.append hR3⟩
  | sbDup fname args kwargs body k t s hcl _ _ =>
    intro s' fin _ _ hok _ _ _ _
    simp [noSFL, noSF] at hok
  | sbMiss fname args kwargs body k t s r1 e1 ops1 r e ops3 s1 hs1 hf hcl hb hk hkb hf3 hkr hd1 _ ihb ihk =>
    subst hs1
    intro s' fin hsame hv hok hanti habs hfin hsup
    rw [fnamesDeepL_cons, fnamesDeep_execSubOp] at hv
    rw [targetsDeepL_cons, targetsDeep_execSubOp] at hanti habs hsup ⊢
    rw [noSFL_cons, Bool.and_eq_true] at hok
    obtain ⟨s2', hrep2, hsame2, hR2⟩ := ihb (subClaim s' (subKey fname args kwargs)) fin ((hsame.subClaim _).subStart_left _)
      (fun f hf => (versionOk_congr (b := s') rfl rfl f).trans (hv f (List.mem_append_left _ (List.mem_cons_of_mem _ hf))))
      (noSF_execSubOp _ _ _ _ _ hok.1) hanti.left (fun p hp => habs p (List.mem_append_left _ hp)) (hkr.trans hfin)
      (fun p hp => hsup p (List.mem_append_left _ hp))
    have hRa : Replayed s' s2' (targetsDeepL ops1) := ⟨hR2.old, hR2.nv, hR2.inv, hR2.shelf⟩
    have hreplay : replayOp (execSubOp fname args kwargs ops1 r1) s' = some s2' := by
      rw [replayOp_execSubOp s' fname args kwargs ops1 r1 (hv fname (List.mem_append_left _ (List.mem_cons_self ..)))
        (by rw [hsame.claimedSubs]; exact hcl), hrep2]
    have hrest_sub : ∀ p ∈ targetsDeepL ops3, ∀ p' ∈ targetsDeepL ops1, ¬ p <+: p' :=
      fun p hp p' hp' => (Antichain.ne_of_mem_append hanti hp' hp).2.2
    obtain ⟨s'', hrep3, hsame4, hR3⟩ := ihk s2' fin hsame2
      (fun f hf => (versionOk_congr hRa.old hRa.nv f).trans (hv f (List.mem_append_right _ hf))) hok.2 hanti.right
      (fun p hp => hd1.absent p (habs p (List.mem_append_right _ hp)) (hrest_sub p hp)) hfin
      (fun p hp => (hRa.shelf p (hrest_sub p hp)).trans (hsup p (List.mem_append_right _ hp)))
    exact ⟨s'', by simp only [replayOps, hreplay]; exact hrep3, hsame4, hRa.append hR3⟩

/-- **replay completeness with failed calls**: the records of a first run in which calls may have RAISED (but none
    failed in its set-up) are accepted again, in order, by a state that looks the same and whose shelf holds the
    run's outputs: a record that raised is re-enacted (`unwind`), not re-executed — and the replay leaves that state
    looking like the state after the run -/
theorem replay_runF (prog : Prog) : ∀ (t : Option Path) (s s' fin : KSt),
    s.old.roots = [] → Same s s' → (∀ f ∈ fnamesDeepL (Impl.run prog t s).2.2, versionOk s' f = true) →
    noSFL (Impl.run prog t s).2.2 = true →
    Antichain (targetsDeepL (Impl.run prog t s).2.2) →
    (∀ p ∈ targetsDeepL (Impl.run prog t s).2.2, s.sp.fs.get p = none) →
    FirstKeeps (Impl.run prog t s).2.1 fin →
    (∀ p ∈ targetsDeepL (Impl.run prog t s).2.2, s'.shelf.get p = fin.sp.fs.get p) →
    ∃ s'', replayOps (Impl.run prog t s).2.2 s' = some s'' ∧ Same (Impl.run prog t s).2.1 s'' ∧
      Replayed s' s'' (targetsDeepL (Impl.run prog t s).2.2) :=
  fun t s s' fin h0 hsame => (firstRun prog t s ⟨h0, hsame.ff, hsame.fsb⟩).replay s' fin hsame

end FB

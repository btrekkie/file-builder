/-
  C08 — at most one execution per key (sequential part; the thread clause is `FB.Conc`).
-/
import FB.Lemmas.ReplayBasic
namespace FB
open FS Spec

/-- C08: a second `build_file` for a claimed path (being built, built, failed, or registered by a
    reused subtree) is rejected before anything happens. -/
theorem C08_dup_file_rejected (sp : SpecSt) (path : Path) (h : path ∈ sp.claimedFiles) :
    bfSetup sp path = .error (.runtime .dupFile) := by
  unfold bfSetup; simp [h]

/-- C08: the rejected call invokes nothing and disturbs neither the tree, nor the claims, nor the
    outputs, nor what the first call has written (stated for the reference semantics). -/
theorem C08_dup_file_no_effect (path : Path) (cmp : Cmp) (fname : String) (args kwargs : Json)
    (body : Prog) (k : CallRes → Prog) (t : Option Path) (sp : SpecSt) (h : path ∈ sp.claimedFiles) :
    run (.buildFile path cmp fname args kwargs body k) t sp =
      (let rk := run (k (.error (.runtime .dupFile))) t (setupFailState sp path (.runtime .dupFile))
       (rk.1, rk.2.1, CallNode.mk fname (some path) args kwargs "setup:RuntimeError" [] :: rk.2.2)) ∧
    (setupFailState sp path (.runtime .dupFile)).fs = sp.fs ∧
    (setupFailState sp path (.runtime .dupFile)).claimedFiles = sp.claimedFiles ∧
    (setupFailState sp path (.runtime .dupFile)).outputs = sp.outputs ∧
    (setupFailState sp path (.runtime .dupFile)).pending = sp.pending ∧
    (setupFailState sp path (.runtime .dupFile)).invLog = sp.invLog := by
  refine ⟨?_, rfl, rfl, rfl, rfl, rfl⟩
  simp only [run, C08_dup_file_rejected sp path h]
  rfl

/-- C08: a second `subbuild` with a JSON-equal key is rejected the same way. -/
theorem C08_dup_sub_no_effect (fname : String) (args kwargs : Json) (body : Prog) (k : CallRes → Prog)
    (t : Option Path) (sp : SpecSt) (h : sp.claimedSubs.any (heq (subKey fname args kwargs)) = true) :
    run (.subbuild fname args kwargs body k) t sp =
      (let rk := run (k (.error (.runtime .dupSub))) t sp
       (rk.1, rk.2.1, CallNode.mk fname none args kwargs "setup:RuntimeError" [] :: rk.2.2)) := by
  simp only [run, h, if_true]

/-- C08 (implied duplicates): reusing a recorded `build_file` subtree claims its path, so that a later call for it
    is rejected; and the subtree is reused only if its path is not claimed yet. -/
theorem C08_reuse_checks_and_claims (path : Path) (cmp : Cmp) (fname : String) (args kwargs : Json)
    (subs : List Op) (ret cmpRes : Json) (raised sf : Bool) (content : String) (s s' : KSt) (hwf : s.WF)
    (h : Impl.replayOp (.buildFile path cmp fname args kwargs subs ret cmpRes raised sf content) s = some s') :
    path ∉ s.sp.claimedFiles ∧ path ∈ s'.sp.claimedFiles := by
  obtain ⟨_, _, _, hncl, _, _, made, s2, _, _, hs2, rfl⟩ := replayOp_buildFile_some _ _ _ _ _ _ _ _ _ _ _ _ _ h
  have : path ∈ s2.sp.claimedFiles :=
    (replayOps_keeps subs _ s2 (replayS1_wf hwf path made raised) hs2).claimed path List.mem_cons_self
  exact ⟨hncl, by cases raised <;> exact this⟩

/-- C08: a rejected attempt (`setup_failed`) is never served from the cache: replay refuses every tree
    that has one at its root. -/
theorem C08_rejected_never_served_file (path : Path) (cmp : Cmp) (fname : String) (args kwargs : Json)
    (subs : List Op) (ret cmpRes : Json) (raised : Bool) (content : String) (s : KSt) :
    Impl.replayOp (.buildFile path cmp fname args kwargs subs ret cmpRes raised true content) s = none := by
  cases h : Impl.replayOp (.buildFile path cmp fname args kwargs subs ret cmpRes raised true content) s with
  | none => rfl
  | some s' =>
    obtain ⟨_, _, hsf, _⟩ := replayOp_buildFile_some _ _ _ _ _ _ _ _ _ _ _ _ _ h
    cases hsf

theorem C08_rejected_never_served_sub (fname : String) (args kwargs : Json) (subs : List Op) (ret : Json)
    (raised : Bool) (s : KSt) :
    Impl.replayOp (.subbuild fname args kwargs subs ret raised true) s = none := by
  cases h : Impl.replayOp (.subbuild fname args kwargs subs ret raised true) s with
  | none => rfl
  | some s' =>
    obtain ⟨_, hsf, _⟩ := replayOp_subbuild_some _ _ _ _ _ _ _ _ _ h
    cases hsf

end FB

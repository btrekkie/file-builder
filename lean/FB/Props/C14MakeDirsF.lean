/-
  C14 — `_make_dirs` under a fault at any of its mutating calls (`FB.MakeDirsF`: the mkdirs AND the renames that move
  old outputs out of directory positions): in whichever way it fails, the tree it leaves differs from the one it found
  only by regular files that are now in the undo log (`makeDirsF_error`); without a fault the model is `FB.MakeDirs`
  (`loop_none`).  With a fault the two models count differently (`FB.MakeDirs` counts the mkdirs only), so each has its
  own `loop_run`.
-/
import FB.MakeDirsF
import FB.Props.C10MakeDirs
namespace FB
namespace MakeDirsF
open FS Spec BuildDirs
open MakeDirs (St)

/-- **The runs of `_make_dirs` with the fault at any call**: as `FB.MakeDirs.loop_run`, the rename that moves a
    file aside being a call that can fail too. -/
theorem loop_run (oldCreated : List Path) (failAt : Option Nat) (J : List Path → St → Prop) (I : St → Prop)
    (haside : ∀ d rest st, st.fs.isFile d = true → J (d :: rest) st →
      J rest { st with fs := (Backups.backUpAndRemove st.fs st.bk d).1, bk := (Backups.backUpAndRemove st.fs st.bk d).2.1 })
    (hdrop : ∀ d rest st, J (d :: rest) st → J rest st)
    (hmkdir : ∀ d rest st fs', st.fs.mkdir d = .ok fs' → J rest st → J rest { st with fs := fs', made := st.made ++ [d] })
    (hunwind : ∀ l st, J l st → I (unwound st)) :
    ∀ (dirs : List Path) (i : Nat) (st : St) (out : St × Nat), J dirs st →
      (loop oldCreated failAt dirs i st = .ok out → J [] out.1) ∧ (loop oldCreated failAt dirs i st = .error out → I out.1) := by
  intro dirs
  induction dirs with
  | nil =>
    intro i st out h
    rw [loop]
    exact ⟨fun e => Except.ok.inj e ▸ h, nofun⟩
  | cons d rest ih =>
    intro i st out h
    rw [loop]
    -- the move-aside step: the fault strikes the rename, or the run goes on with `J rest`
    have haside' : (∀ e, aside oldCreated failAt d i st = .error e → I e.1) ∧
        (∀ p, aside oldCreated failAt d i st = .ok p → J rest p.1) := by
      rw [aside]
      by_cases hc : (st.fs.isFile d && oldCreated.contains d) = true
      · rw [if_pos hc]
        by_cases hf : failAt = some i
        · rw [if_pos hf]
          exact ⟨fun e he => Except.error.inj he ▸ hunwind _ st h, nofun⟩
        · rw [if_neg hf]
          exact ⟨nofun, fun p hp => Except.ok.inj hp ▸ haside d rest st (Bool.and_eq_true _ _ ▸ hc).1 h⟩
      · rw [if_neg hc]
        exact ⟨nofun, fun p hp => Except.ok.inj hp ▸ hdrop d rest st h⟩
    cases ha : aside oldCreated failAt d i st with
    | error e1 => exact ⟨nofun, fun e => Except.error.inj e ▸ haside'.1 e1 ha⟩
    | ok p =>
      obtain ⟨st1, i1⟩ := p
      have h1 : J rest st1 := haside'.2 _ ha
      have hfail : ∀ x, Except.error (unwound st1, i1) = (Except.error x : Except (St × Nat) (St × Nat)) → I x.1 :=
        fun x e => Except.error.inj e ▸ hunwind rest st1 h1
      simp only
      by_cases hf : failAt = some i1
      · rw [if_pos hf]; exact ⟨nofun, hfail out⟩
      · rw [if_neg hf]
        cases hm : st1.fs.mkdir d with
        | ok fs' => exact ih (i1 + 1) _ out (hmkdir d rest st1 fs' hm h1)
        | error e =>
          cases e with
          | fileExists => exact ih (i1 + 1) st1 out h1
          | _ => exact ⟨nofun, hfail out⟩

/-- **no leftovers, whichever call fails**: a rename that moves an old output aside, a mkdir, an injected fault at
    either - the tree `_make_dirs` leaves differs from the one it found only by regular files now in the undo log -/
theorem loop_error (oldCreated : List Path) (failAt : Option Nat) (fs0 : FS) (hwf : TreeWF fs0) :
    ∀ (dirs : List Path) (i : Nat) (st : St) (e : St × Nat), MakeDirs.Inv fs0 st → loop oldCreated failAt dirs i st = .error e →
    ∀ q, e.1.fs.get q = fs0.get q ∨ ((∃ c m, fs0.get q = some (.file c m)) ∧ e.1.fs.get q = none) :=
  fun dirs i st e hinv h => (loop_run oldCreated failAt (fun _ st => MakeDirs.Inv fs0 st)
    (fun st' => ∀ q, st'.fs.get q = fs0.get q ∨ ((∃ c m, fs0.get q = some (.file c m)) ∧ st'.fs.get q = none))
    (fun d _ _ hfile hst => inv_backup hst d hfile) (fun _ _ _ hst => hst)
    (fun d _ _ fs' hm hst => inv_mkdir hwf hst d fs' hm) (fun _ _ hst => hst.unwind) dirs i st e hinv).2 h

theorem makeDirsF_error (fs : FS) (bk : Backups.BK) (dirs oldCreated : List Path) (failAt : Option Nat) (hwf : TreeWF fs)
    (e : St × Nat) (h : makeDirs fs bk dirs oldCreated failAt = .error e) :
    ∀ q, e.1.fs.get q = fs.get q ∨ ((∃ c m, fs.get q = some (.file c m)) ∧ e.1.fs.get q = none) :=
  loop_error oldCreated failAt fs hwf dirs 0 _ e (MakeDirs.Inv.start fs bk) h

/-- forget the call counter -/
def proj : Except (St × Nat) (St × Nat) → Except St St
  | .ok p => .ok p.1
  | .error p => .error p.1

/-- **without a fault the model is `FB.MakeDirs.loop`** (whose tie and theorems therefore carry over) -/
theorem loop_none (oldCreated : List Path) : ∀ (dirs : List Path) (i j : Nat) (st : St),
    proj (loop oldCreated none dirs i st) = MakeDirs.loop oldCreated none dirs j st := by
  intro dirs
  induction dirs with
  | nil => intro i j st; rw [loop, MakeDirs.loop]; rfl
  | cons d rest ih =>
    intro i j st
    rw [loop, MakeDirs.loop]
    unfold aside
    by_cases hc : (st.fs.isFile d && oldCreated.contains d) = true
    · simp only [hc, if_true]
      have hf : ∀ k : Nat, ¬ ((none : Option Nat) = some k) := by intro k; simp
      simp only [hf, if_false]
      cases hm : ((Backups.backUpAndRemove st.fs st.bk d).1).mkdir d with
      | ok fs' => exact ih _ _ _
      | error err =>
        cases err with
        | fileExists => exact ih _ _ _
        | _ => rfl
    · simp only [hc, Bool.false_eq_true, if_false]
      have hf : ∀ k : Nat, ¬ ((none : Option Nat) = some k) := by intro k; simp
      simp only [hf, if_false]
      cases hm : st.fs.mkdir d with
      | ok fs' => exact ih _ _ _
      | error err =>
        cases err with
        | fileExists => exact ih _ _ _
        | _ => rfl

end MakeDirsF
end FB

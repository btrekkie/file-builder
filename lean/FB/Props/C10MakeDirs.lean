/-
  C10/C14 — `_make_dirs` leaves nothing behind when it fails part-way: whatever `mkdir` fails (the injected one, a
  missing parent, a regular file in the way), after the `except OSError` branch no directory exists that was not
  there before, every directory that was there is still there, and every regular file is still there unless it was
  moved to the undo log (from where a rollback restores it).
-/
import FB.MakeDirs
import FB.Props.C02Rollback
namespace FB
namespace MakeDirs
open FS Spec BuildDirs

/-- the loop invariant: `made` are directories that were absent at the start and hold only each other; everything
    else is as it was, or is a regular file that was moved to the undo log -/
structure Inv (fs0 : FS) (st : St) : Prop where
  made_new : ∀ d ∈ st.made, d ≠ [] ∧ (fs0.get d = none ∨ ∃ c m, fs0.get d = some (.file c m)) ∧ st.fs.get d = some .dir
  others : ∀ q, q ∉ st.made → st.fs.get q = fs0.get q ∨ ((∃ c m, fs0.get q = some (.file c m)) ∧ st.fs.get q = none)
  closed : ∀ d ∈ st.made, ∀ n, st.fs.get (d ++ [n]) ≠ none → (d ++ [n]) ∈ st.made
  parent : ∀ d ∈ st.made, st.fs.isDir d.dropLast = true

theorem Inv.unwind {fs0 : FS} {st : St} (h : Inv fs0 st) :
    ∀ q, (rmEmpty st.fs st.made).get q = fs0.get q ∨ ((∃ c m, fs0.get q = some (.file c m)) ∧ (rmEmpty st.fs st.made).get q = none) := by
  have hgone := Rollback.rmEmpty_removes (fun d => d ∈ st.made) st.fs st.made
    (fun d hd => ⟨(h.made_new d hd).1, Or.inr (h.made_new d hd).2.2⟩) h.closed (fun d hd _ => hd)
  intro q
  by_cases hq : q ∈ st.made
  · rcases (h.made_new q hq).2.1 with h0 | h0
    · left; rw [hgone q hq, h0]
    · right; exact ⟨h0, hgone q hq⟩
  · rcases rmEmpty_get st.made st.fs q with h1 | ⟨h1, _, _⟩
    · rw [h1]; exact h.others q hq
    · exact absurd h1 hq

theorem _root_.FB.MakeDirsF.inv_backup {fs0 : FS} {st : St} (hinv : MakeDirs.Inv fs0 st) (d : Path) (hfile : st.fs.isFile d = true) :
    MakeDirs.Inv fs0 { st with fs := (Backups.backUpAndRemove st.fs st.bk d).1, bk := (Backups.backUpAndRemove st.fs st.bk d).2.1 } := by
  obtain ⟨c, m, hg⟩ := isFile_iff.mp hfile
  have hdm : d ∉ st.made := fun hm => by rw [(hinv.made_new d hm).2.2] at hg; cases hg
  have hdne : d ≠ [] := fun e => by rw [e, get_nil] at hg; cases hg
  obtain ⟨hself, -, -, hother⟩ := Backups.backUp_file st.fs st.bk d c m hdne hg
  refine ⟨fun x hx => ?_, fun q hq => ?_, fun x hx n hn => ?_, fun x hx => ?_⟩
  · obtain ⟨h1, h2, h3⟩ := hinv.made_new x hx
    exact ⟨h1, h2, (hother x (fun e => hdm (e ▸ hx))).trans h3⟩
  · by_cases hqd : q = d
    · subst hqd
      refine Or.inr ⟨?_, hself⟩
      rcases hinv.others q hq with h1 | ⟨_, h1⟩
      · exact ⟨c, m, by rw [← h1, hg]⟩
      · rw [hg] at h1; cases h1
    · exact (hinv.others q hq).imp (fun h1 => (hother q hqd).trans h1) (fun h1 => ⟨h1.1, (hother q hqd).trans h1.2⟩)
  · refine hinv.closed x hx n (fun e => hn ?_)
    by_cases hqd : x ++ [n] = d
    · rw [hqd]; exact hself
    · exact (hother _ hqd).trans e
  · have hp := hinv.parent x hx
    have hne : x.dropLast ≠ d := fun e => by rw [e, isDir_iff, hg] at hp; cases hp
    exact (isDir_congr (hother _ hne)).trans hp

theorem _root_.FB.MakeDirsF.inv_mkdir {fs0 : FS} (hwf : TreeWF fs0) {st1 : St} (hinv1 : MakeDirs.Inv fs0 st1) (d : Path) (fs' : FS)
    (hm : st1.fs.mkdir d = .ok fs') : MakeDirs.Inv fs0 { st1 with fs := fs', made := st1.made ++ [d] } := by
  have hget : ∀ q, fs'.get q = if q = d then some .dir else st1.fs.get q := fun q => get_mkdir st1.fs fs' d q hm
  obtain ⟨hdne, hpar, habs, -⟩ := mkdir_ok hm
  have hdm : d ∉ st1.made := fun hx => by rw [(hinv1.made_new d hx).2.2] at habs; cases habs
  have hd0 : fs0.get d = none ∨ ∃ c m, fs0.get d = some (.file c m) := by
    rcases hinv1.others d hdm with h1 | ⟨h1, _⟩
    · left; rw [← h1]; exact habs
    · right; exact h1
  -- `d` was not a directory at the start, so nothing of the start tree lies below it
  have hbelow0 : ∀ n, fs0.get (d ++ [n]) = none := by
    intro n
    by_contra hc
    have := hwf (d ++ [n]) (List.append_ne_nil_of_right_ne_nil _ (List.cons_ne_nil n [])) hc
    rw [List.dropLast_concat, isDir_iff] at this
    rcases hd0 with h0 | ⟨c, m, h0⟩ <;> (rw [h0] at this; cases this)
  refine ⟨fun x hx => ?_, fun q hq => ?_, fun x hx n hn => ?_, fun x hx => ?_⟩
  · rcases List.mem_append.mp hx with hx' | hx'
    · obtain ⟨h1, h2, h3⟩ := hinv1.made_new x hx'
      refine ⟨h1, h2, ?_⟩
      show fs'.get x = _
      rw [hget, if_neg (fun (e : x = d) => hdm (e ▸ hx'))]; exact h3
    · cases List.mem_singleton.mp hx'
      exact ⟨hdne, hd0, (hget d).trans (if_pos rfl)⟩
  · show fs'.get q = _ ∨ _
    rw [hget, if_neg (fun (e : q = d) => hq (List.mem_append_right _ (List.mem_singleton.mpr e)))]
    exact hinv1.others q (fun hx => hq (List.mem_append_left _ hx))
  · have hn' : fs'.get (x ++ [n]) ≠ none := hn
    rw [hget] at hn'
    by_cases he : x ++ [n] = d
    · rw [he]; exact List.mem_append_right _ (List.mem_singleton_self d)
    · rw [if_neg he] at hn'
      rcases List.mem_append.mp hx with hx' | hx'
      · exact List.mem_append_left _ (hinv1.closed x hx' n hn')
      · -- an entry of the directory just made: there is none
        cases List.mem_singleton.mp hx'
        exfalso
        by_cases hmm : (d ++ [n]) ∈ st1.made
        · have hpp := hinv1.parent _ hmm
          rw [List.dropLast_concat, isDir_iff, habs] at hpp; cases hpp
        · rcases hinv1.others _ hmm with h1 | ⟨_, h1⟩
          · rw [h1, hbelow0 n] at hn'; exact hn' rfl
          · exact hn' h1
  · show fs'.isDir x.dropLast = true
    rw [isDir_iff, hget]
    by_cases he : x.dropLast = d
    · rw [if_pos he]
    · rw [if_neg he]
      rcases List.mem_append.mp hx with hx' | hx'
      · exact isDir_iff.mp (hinv1.parent x hx')
      · cases List.mem_singleton.mp hx'; exact hpar

/-- **The runs of `_make_dirs`**: per directory an optional move of a regular file to the undo log, then a `mkdir`
    that succeeds, finds the directory there, or fails; a failure (or the injected fault) ends the run with the
    directories made so far removed again.  `J` may speak of the directories still to come. -/
theorem loop_run (oldCreated : List Path) (failAt : Option Nat) (J : List Path → St → Prop) (I : St → Prop)
    (haside : ∀ d rest st, st.fs.isFile d = true → J (d :: rest) st →
      J rest { st with fs := (Backups.backUpAndRemove st.fs st.bk d).1, bk := (Backups.backUpAndRemove st.fs st.bk d).2.1 })
    (hdrop : ∀ d rest st, J (d :: rest) st → J rest st)
    (hmkdir : ∀ d rest st fs', st.fs.mkdir d = .ok fs' → J rest st → J rest { st with fs := fs', made := st.made ++ [d] })
    (hunwind : ∀ l st, J l st → I { st with fs := Spec.rmEmpty st.fs st.made }) :
    ∀ (dirs : List Path) (i : Nat) (st st' : St), J dirs st →
      (loop oldCreated failAt dirs i st = .ok st' → J [] st') ∧ (loop oldCreated failAt dirs i st = .error st' → I st') := by
  intro dirs
  induction dirs with
  | nil =>
    intro i st st' h
    rw [loop]
    exact ⟨fun e => Except.ok.inj e ▸ h, nofun⟩
  | cons d rest ih =>
    intro i st st' h
    rw [loop]
    simp only
    generalize hst1 : (if st.fs.isFile d && oldCreated.contains d then
        ({ st with fs := (Backups.backUpAndRemove st.fs st.bk d).1, bk := (Backups.backUpAndRemove st.fs st.bk d).2.1 } : St)
      else st) = st1
    have h1 : J rest st1 := by
      rw [← hst1]
      split
      · rename_i hc
        exact haside d rest st (Bool.and_eq_true _ _ ▸ hc).1 h
      · exact hdrop d rest st h
    have hfail : ∀ x, Except.error { st1 with fs := Spec.rmEmpty st1.fs st1.made } = (Except.error x : Except St St) → I x :=
      fun x e => Except.error.inj e ▸ hunwind rest st1 h1
    by_cases hf : failAt = some i
    · rw [if_pos hf]; exact ⟨nofun, hfail st'⟩
    · rw [if_neg hf]
      cases hm : st1.fs.mkdir d with
      | ok fs' => exact ih (i + 1) _ st' (hmkdir d rest st1 fs' hm h1)
      | error e =>
        cases e with
        | fileExists => exact ih (i + 1) st1 st' h1
        | _ => exact ⟨nofun, hfail st'⟩

/-- **no leftovers**: in whichever way `_make_dirs` fails, the tree it leaves differs from the one it found only by
    regular files that are now in the undo log -/
theorem loop_error (oldCreated : List Path) (failAt : Option Nat) (fs0 : FS) (hwf : TreeWF fs0) :
    ∀ (dirs : List Path) (i : Nat) (st st' : St), Inv fs0 st → loop oldCreated failAt dirs i st = .error st' →
    ∀ q, st'.fs.get q = fs0.get q ∨ ((∃ c m, fs0.get q = some (.file c m)) ∧ st'.fs.get q = none) :=
  fun dirs i st st' hinv h => (loop_run oldCreated failAt (fun _ st => Inv fs0 st)
    (fun st' => ∀ q, st'.fs.get q = fs0.get q ∨ ((∃ c m, fs0.get q = some (.file c m)) ∧ st'.fs.get q = none))
    (fun d _ _ hfile hst => MakeDirsF.inv_backup hst d hfile) (fun _ _ _ hst => hst)
    (fun d _ _ fs' hm hst => MakeDirsF.inv_mkdir hwf hst d fs' hm) (fun _ _ hst => hst.unwind) dirs i st st' hinv).2 h

theorem Inv.start (fs : FS) (bk : Backups.BK) : Inv fs { fs := fs, bk := bk } :=
  ⟨nofun, fun _ _ => Or.inl rfl, nofun, nofun⟩

theorem makeDirs_error (fs : FS) (bk : Backups.BK) (dirs oldCreated : List Path) (failAt : Option Nat) (hwf : TreeWF fs)
    (st' : St) (h : makeDirs fs bk dirs oldCreated failAt = .error st') :
    ∀ q, st'.fs.get q = fs.get q ∨ ((∃ c m, fs.get q = some (.file c m)) ∧ st'.fs.get q = none) :=
  loop_error oldCreated failAt fs hwf dirs 0 _ st' (Inv.start fs bk) h

end MakeDirs
end FB

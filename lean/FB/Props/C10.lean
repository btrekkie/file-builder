/-
  C10 — the build_file contract, on the reference semantics (`Spec.bfSetup` / `Spec.bfFinish`,
  which `Impl.run` uses verbatim around a rebuilt file).
-/
import FB.Lemmas.RunPending
namespace FB
open FS Spec

/-- C10 (success): `build_file` reports success only if the function wrote the target; the target is
    then a regular file holding exactly the bytes written last, and the value is the function's
    (already sanitized) return value. -/
theorem C10_success (s : SpecSt) (path : Path) (made : List Path) (r : CallRes) (j : Json)
    (hp : path ≠ []) (h : (bfFinish s path made r).1 = .ok j) :
    r = .ok j ∧ (∃ b m, pendingFind s.pending path = some (b, m) ∧
      (bfFinish s path made r).2.fs.get path = some (.file b m)) ∧
    path ∈ (bfFinish s path made r).2.outputs := by
  obtain ⟨c, m, hw, hr, hfin⟩ := bfFinish_fst_ok h
  rw [hfin]
  exact ⟨hr, ⟨c, m, hw, get_set_self _ _ _ hp⟩, List.mem_cons_self ..⟩

/-- C10 (failure): if the function raises, returns a non-JSON value (`.error .typeErr` from `ret`) or
    does not create the file, the exception propagates unchanged (or is `notCreated`, resp. the OSError of
    an over-long target name), nothing appears
    at the target, the recorded outputs are unchanged, and the tree is touched only by removing
    directories made for this call. -/
theorem C10_failure (s : SpecSt) (path : Path) (made : List Path) (r : CallRes) (e : Exc)
    (h : (bfFinish s path made r).1 = .error e) :
    (r = .error e ∨ (∃ j, r = .ok j ∧ e = notCreatedExc path ∧ pendingFind s.pending path = none)) ∧
    (s.fs.isFile path = false → (bfFinish s path made r).2.fs.isFile path = false) ∧
    (bfFinish s path made r).2.outputs = s.outputs ∧
    (∀ q, (bfFinish s path made r).2.fs.get q = s.fs.get q ∨
      (q ∈ made ∧ s.fs.get q = some .dir ∧ (bfFinish s path made r).2.fs.get q = none)) := by
  have hcause : r = .error e ∨ ∃ j, r = .ok j ∧ e = notCreatedExc path ∧ pendingFind s.pending path = none := by
    cases r with
    | error e' => rw [bfFinish_error] at h; cases h; exact .inl rfl
    | ok j =>
      cases hw : pendingFind s.pending path with
      | none => rw [bfFinish_notCreated _ _ _ _ hw] at h; cases h; exact .inr ⟨j, rfl, rfl, rfl⟩
      | some x => rw [bfFinish_ok _ _ _ _ x.1 x.2 hw] at h; cases h
  rw [bfFinish_fst_error h]
  refine ⟨hcause, fun hf => ?_, rfl, fun q => rmEmpty_get made s.fs q⟩
  show (rmEmpty s.fs made).isFile path = false
  rcases rmEmpty_get made s.fs path with h' | ⟨_, _, hn⟩
  · simpa [isFile, h'] using hf
  · simp [isFile, hn]

/-- C10 (setup): when `build_file` gets as far as calling the function, no regular file is at the target, the
    target is claimed and marked as being built (which hides it from queries: `C04_hidden`), it is not the cache
    file, and it had not been claimed before. -/
theorem C10_setup (s s1 : SpecSt) (path : Path) (made : List Path)
    (h : bfSetup s path = .ok (s1, made)) :
    s1.fs.isFile path = false ∧ path ∈ s1.inProg ∧ path ∈ s1.claimedFiles ∧ path ≠ s.cacheFile ∧
    ¬ (s.claimedFiles.contains path = true) := by
  obtain ⟨hs, hc, hcf, _⟩ := bfSetup_ok_fields s s1 path made h
  subst hs
  exact ⟨isFile_eraseIfFile _ _, List.mem_cons_self .., List.mem_cons_self .., hcf, by simpa using hc⟩

end FB

/-
  C13 — comparison modes.  HASH tracks content, METADATA tracks size + mtime; a recorded `read` or a
  recorded output is accepted by replay exactly when the comparison result is JSON-equal.
-/
import FB.Lemmas.ReplayBasic
namespace FB
open FS Spec

/-- C13 (HASH): two HASH results are equal iff the bytes are equal — whatever size and mtime are
    (SHA-256 is modelled as injective: trusted). -/
theorem C13_hash_iff (b b0 : String) (m m0 : Nat) :
    isEqual (View.cmpResult .hash b m) (View.cmpResult .hash b0 m0) = true ↔ b = b0 := by
  constructor
  · exact cmpResult_hash_inj b b0 m m0
  · intro h; subst h; simp [View.cmpResult, isEqual]

/-- C13 (METADATA): two METADATA results are equal iff size and mtime_ns are equal — whatever the
    bytes are. -/
theorem C13_metadata_iff (b b0 : String) (m m0 : Nat) :
    isEqual (View.cmpResult .metadata b m) (View.cmpResult .metadata b0 m0) = true ↔
      (b.utf8ByteSize = b0.utf8ByteSize ∧ m = m0) := by
  simp [View.cmpResult, isEqual, subObj, lookupWith, Num.eq_int]
  omega

/-- C13 (input read): a recorded successful `read p` is accepted by replay iff `p` is now a visible
    regular file whose comparison result equals the recorded one. -/
theorem C13_read_replay (s : KSt) (p : Path) (cmp : Cmp) (ret : Json) (ans : UAns) :
    (∃ s', Impl.replayOp (.simple (.read p cmp) ret none ans) s = some s') ↔
      ∃ b m, (visible s.sp).get p = some (.file b m) ∧ isEqual (View.cmpResult cmp b m) ret = true := by
  unfold Impl.replayOp
  simp only [View.recVal]
  cases hg : (visible s.sp).get p with
  | none => simp
  | some e =>
    cases e with
    | dir => simp
    | file b m =>
      simp only
      constructor
      · rintro ⟨s', h⟩
        split at h
        · rename_i hc; exact ⟨b, m, rfl, hc⟩
        · cases h
      · rintro ⟨b', m', hbm, hc⟩
        simp only [Option.some.injEq, Entry.file.injEq] at hbm
        obtain ⟨rfl, rfl⟩ := hbm
        exact ⟨s, by simp [hc]⟩

/-- C13 (output integrity): a recorded successful output is accepted only if the leftover at its path
    still has a JSON-equal comparison result; a changed leftover makes the whole record a miss. -/
theorem C13_output_replay (path : Path) (cmp : Cmp) (fname : String) (args kwargs : Json) (subs : List Op)
    (ret cmpRes : Json) (sf : Bool) (content : String) (s s' : KSt)
    (h : Impl.replayOp (.buildFile path cmp fname args kwargs subs ret cmpRes false sf content) s = some s') :
    isEqual cmpRes (Impl.cmpShelf s path cmp) = true := by
  obtain ⟨_, hom, _⟩ := replayOp_buildFile_some _ _ _ _ _ _ _ _ _ _ _ _ _ h
  exact hom rfl

example : isEqual (View.cmpResult .hash "ab" 1) (View.cmpResult .hash "ab" 2) = true ∧
    isEqual (View.cmpResult .metadata "ab" 1) (View.cmpResult .metadata "cd" 1) = true ∧
    isEqual (View.cmpResult .metadata "ab" 1) (View.cmpResult .metadata "ab" 2) = false := by
  refine ⟨(C13_hash_iff _ _ _ _).mpr rfl, (C13_metadata_iff _ _ _ _).mpr ⟨by decide, rfl⟩, ?_⟩
  cases h : isEqual (View.cmpResult .metadata "ab" 1) (View.cmpResult .metadata "ab" 2) with
  | false => rfl
  | true => have := (C13_metadata_iff _ _ _ _).mp h; omega

end FB

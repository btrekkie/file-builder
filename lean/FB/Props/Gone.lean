/-
  C04 — "every query answers as if … the directories that build had created and that are now empty were already
  gone."  `Gone` states that declaratively, on a fixed tree: an old directory is gone iff it is absent, or it is a
  directory every entry of which is an old output that is (still) not a directory, or an old directory that is
  itself gone.  Nothing here speaks of `build_dirs.py`: these are the facts about trees that the proofs about its
  scan need — what is gone has only gone things below it (`Gone.descend`), so whatever exists and is not gone keeps
  everything above it alive (`Anchor`, `anchor_of_exists`).
-/
import FB.Lemmas.Sort
import FB.Lemmas.FSKind
import FB.Props.C04
namespace FB

namespace BuildDirs
open FS

def TreeWF (fs : FS) : Prop := ∀ p, p ≠ [] → fs.get p ≠ none → fs.isDir p.dropLast = true

theorem TreeWF.isDir_of_prefix {fs : FS} (hwf : TreeWF fs) {a x : Path} (hp : a <+: x) (hne : a ≠ x)
    (hx : fs.get x ≠ none) : fs.isDir a = true := by
  obtain ⟨t, rfl⟩ := hp
  induction t generalizing a with
  | nil => exact absurd (List.append_nil a).symm hne
  | cons n r ih =>
    have hn : fs.get (a ++ [n]) ≠ none := by
      by_cases hr : r = []
      · subst hr; exact hx
      · exact get_ne_none_of_isDir (ih (a := a ++ [n]) (fun e => hr (List.self_eq_append_right.mp e))
          (by rwa [List.append_assoc, List.singleton_append]))
    have := hwf (a ++ [n]) (by simp) hn
    rwa [List.dropLast_concat] at this

theorem _root_.FB.FS.mem_listdir (fs : FS) (d : Path) (n : String) : n ∈ fs.listdir d ↔ fs.get (d ++ [n]) ≠ none := by
  unfold FS.listdir
  rw [mem_sortStrs', FB.mem_childNames]
  constructor
  · rintro ⟨e, he⟩ hn
    have := get_isSome_of_mem fs _ e he
    rw [hn] at this; cases this
  · intro hne
    cases hg : fs.get (d ++ [n]) with
    | none => exact absurd hg hne
    | some e => exact ⟨e, mem_of_get fs _ e (by simp) hg⟩

/-- `os.listdir(d)` fails with ENOTDIR because a proper ancestor of `d` is a regular file -/
def underFile (fs : FS) (d : Path) : Bool := (List.range d.length).any (fun k => fs.isFile (d.take k))

theorem underFile_iff (fs : FS) (d : Path) : underFile fs d = true ↔ ∃ g, g <+: d ∧ g ≠ d ∧ fs.isFile g = true := by
  unfold underFile
  simp only [List.any_eq_true, List.mem_range]
  constructor
  · rintro ⟨k, hk, hf⟩
    refine ⟨d.take k, List.take_prefix _ _, ?_, hf⟩
    intro e
    have := congrArg List.length e
    simp at this; omega
  · rintro ⟨g, hp, hne, hf⟩
    refine ⟨g.length, ?_, ?_⟩
    · have := hp.length_le
      rcases Nat.lt_or_ge g.length d.length with h | h
      · exact h
      · exact absurd (hp.eq_of_length_le h) hne
    · rw [List.prefix_iff_eq_take.mp hp] at hf; exact hf

theorem notUnderFile_of_exists {fs : FS} (hwf : TreeWF fs) {d : Path} (hd : fs.get d ≠ none) : underFile fs d = false := by
  cases hu : underFile fs d with
  | false => rfl
  | true =>
    obtain ⟨g, hp, hne, hf⟩ := (underFile_iff fs d).mp hu
    obtain ⟨c, m, hg⟩ := isFile_iff.mp hf
    have := isDir_iff.mp (hwf.isDir_of_prefix hp hne hd)
    rw [hg] at this; cases this

/-- an old directory that is virtually gone -/
inductive Gone (fs : FS) (oldDirs oldFiles : List Path) : Path → Prop
  | absent (d : Path) : underFile fs d = false → fs.get d = none → Gone fs oldDirs oldFiles d
  | empty (d : Path) : underFile fs d = false → fs.get d = some .dir →
      (∀ n, n ∈ fs.listdir d → (d ++ [n]) ∈ oldDirs → Gone fs oldDirs oldFiles (d ++ [n])) →
      (∀ n, n ∈ fs.listdir d → (d ++ [n]) ∉ oldDirs → (d ++ [n]) ∈ oldFiles ∧ fs.isDir (d ++ [n]) = false) →
      Gone fs oldDirs oldFiles d

variable (fs : FS) (oldDirs oldFiles : List Path)

/-- an entry that does not keep its directory alive -/
def GoneChild (x : Path) : Prop :=
  (x ∈ oldDirs ∧ Gone fs oldDirs oldFiles x) ∨ (x ∉ oldDirs ∧ x ∈ oldFiles ∧ fs.isDir x = false)

/-- a valid cache: no output file of the previous build lies on the path to one of its directories -/
def Valid : Prop := ∀ f ∈ oldFiles, ∀ d ∈ oldDirs, ¬ f <+: d

theorem Gone.not_file {d : Path} (h : Gone fs oldDirs oldFiles d) : fs.isFile d = false := by
  cases h with
  | absent _ _ hg => simp [FS.isFile, hg]
  | empty _ _ hg _ _ => simp [FS.isFile, hg]

theorem Gone.not_underFile {d : Path} (h : Gone fs oldDirs oldFiles d) : underFile fs d = false := by
  cases h with
  | absent _ h _ => exact h
  | empty _ h _ _ _ => exact h

theorem Gone.of_children {d : Path} (hu : underFile fs d = false) (hg : fs.get d = some .dir)
    (hc : ∀ n ∈ fs.listdir d, GoneChild fs oldDirs oldFiles (d ++ [n])) : Gone fs oldDirs oldFiles d := by
  refine Gone.empty d hu hg ?_ ?_
  · intro n hn ho
    rcases hc n hn with ⟨_, h'⟩ | ⟨h', _⟩
    · exact h'
    · exact absurd ho h'
  · intro n hn ho
    rcases hc n hn with ⟨h', _⟩ | ⟨_, h'⟩
    · exact absurd h' ho
    · exact h'

theorem Gone.children (hwf : TreeWF fs) {d : Path} (h : Gone fs oldDirs oldFiles d) (n : String)
    (hn : fs.get (d ++ [n]) ≠ none) : GoneChild fs oldDirs oldFiles (d ++ [n]) := by
  cases h with
  | absent _ _ hg =>
    have := hwf (d ++ [n]) (by simp) hn
    simp [FS.isDir, hg] at this
  | empty _ _ _ hc1 hc2 =>
    have hm := (mem_listdir fs d n).mpr hn
    by_cases ho : (d ++ [n]) ∈ oldDirs
    · exact Or.inl ⟨ho, hc1 n hm ho⟩
    · exact Or.inr ⟨ho, hc2 n hm ho⟩

theorem Gone.descend (hwf : TreeWF fs) {a x : Path} (hg : Gone fs oldDirs oldFiles a) (hp : a <+: x) (hne : a ≠ x)
    (hx : fs.get x ≠ none) : GoneChild fs oldDirs oldFiles x := by
  obtain ⟨t, rfl⟩ := hp
  induction t generalizing a with
  | nil => exact absurd (List.append_nil a).symm hne
  | cons n r ih =>
    by_cases hr : r = []
    · subst hr; exact hg.children fs oldDirs oldFiles hwf n hx
    · -- the child on the way to `x` exists and is a directory, so it is gone itself
      have hx' : fs.get ((a ++ [n]) ++ r) ≠ none := by rwa [List.append_assoc, List.singleton_append]
      have hne' : a ++ [n] ≠ (a ++ [n]) ++ r := fun e => hr (List.self_eq_append_right.mp e)
      have hdir := hwf.isDir_of_prefix (List.prefix_append _ r) hne' hx'
      rcases hg.children fs oldDirs oldFiles hwf n (get_ne_none_of_isDir hdir) with ⟨_, hgc⟩ | ⟨_, _, hnd⟩
      · have := ih hgc hne' hx'
        rwa [List.append_assoc, List.singleton_append] at this
      · rw [hdir] at hnd; cases hnd

/-- `x` and everything above it is alive: what `handle_norm_cased_dir_exists(x)` is entitled to assume -/
structure Anchor (x : Path) : Prop where
  dirs : ∀ a, a <+: x → a ∈ oldDirs → ¬ Gone fs oldDirs oldFiles a
  files : ∀ a, a <+: x → a ∈ oldFiles → fs.isDir a = true

theorem Anchor.dropLast {x : Path} (h : Anchor fs oldDirs oldFiles x) : Anchor fs oldDirs oldFiles x.dropLast :=
  ⟨fun a ha => h.dirs a (ha.trans (List.dropLast_prefix x)), fun a ha => h.files a (ha.trans (List.dropLast_prefix x))⟩

theorem anchor_of_exists (hwf : TreeWF fs) {x : Path} (hx : fs.get x ≠ none) (hng : ¬ GoneChild fs oldDirs oldFiles x)
    (hxf : x ∈ oldFiles → fs.isDir x = true) : Anchor fs oldDirs oldFiles x := by
  constructor
  · intro a ha hao hg
    by_cases hax : a = x
    · subst hax; exact hng (Or.inl ⟨hao, hg⟩)
    · exact hng (hg.descend fs oldDirs oldFiles hwf ha hax hx)
  · intro a ha hao
    by_cases hax : a = x
    · subst hax; exact hxf hao
    · exact hwf.isDir_of_prefix ha hax hx

/-- `os.listdir(d)` failing with ENOTDIR shows that the parent of the old directory `d` is alive: a regular file
    `g` lies on the way to `d`; it exists and is no old output, and nothing between it and `d` can be gone -/
theorem anchor_of_underFile (hwf : TreeWF fs) (hv : Valid oldDirs oldFiles) {d : Path} (hdo : d ∈ oldDirs)
    (hu : underFile fs d = true) : Anchor fs oldDirs oldFiles d.dropLast := by
  obtain ⟨g, hgp, _, hgf⟩ := (underFile_iff fs d).mp hu
  have hg : Anchor fs oldDirs oldFiles g := by
    refine anchor_of_exists fs oldDirs oldFiles hwf (get_ne_none_of_isFile hgf) ?_ (fun hof => absurd hgp (hv g hof d hdo))
    rintro (⟨_, h2⟩ | ⟨_, h2, _⟩)
    · have := h2.not_file fs oldDirs oldFiles; rw [hgf] at this; cases this
    · exact hv g h2 d hdo hgp
  refine ⟨fun a ha hao hga => ?_, fun a ha hao => absurd (ha.trans (List.dropLast_prefix d)) (hv a hao d hdo)⟩
  rcases List.prefix_or_prefix_of_prefix (ha.trans (List.dropLast_prefix d)) hgp with hag | hga'
  · exact hg.dirs a hag hao hga
  · by_cases he : g = a
    · subst he; exact hg.dirs g (List.prefix_refl g) hao hga
    · have : underFile fs a = true := (underFile_iff fs a).mpr ⟨g, hga', he, hgf⟩
      rw [hga.not_underFile fs oldDirs oldFiles] at this; cases this

/-- what `SimpleOperationExecutor.is_dir` passes to `handle_norm_cased_dir_exists`: a real directory that
    `is_removed_norm_case` has just declared alive -/
theorem anchor_of_isDir (hwf : TreeWF fs) (x : Path) (hd : fs.isDir x = true)
    (hnr : ¬ (x ∈ oldDirs ∧ Gone fs oldDirs oldFiles x)) : Anchor fs oldDirs oldFiles x := by
  refine anchor_of_exists fs oldDirs oldFiles hwf (get_ne_none_of_isDir hd) ?_ (fun _ => hd)
  rintro (h1 | ⟨_, _, h3⟩)
  · exact hnr h1
  · rw [hd] at h3; cases h3

/-- … and `is_file`: the parent of a real regular file that is not an old output -/
theorem anchor_of_isFile (hwf : TreeWF fs) (p : Path) (hf : fs.isFile p = true) (hno : p ∉ oldFiles) :
    Anchor fs oldDirs oldFiles p.dropLast := by
  refine Anchor.dropLast fs oldDirs oldFiles (anchor_of_exists fs oldDirs oldFiles hwf (get_ne_none_of_isFile hf) ?_ (fun h => absurd h hno))
  rintro (⟨_, h2⟩ | ⟨_, h2, _⟩)
  · have := h2.not_file fs oldDirs oldFiles; rw [hf] at this; cases this
  · exact hno h2

end BuildDirs
end FB

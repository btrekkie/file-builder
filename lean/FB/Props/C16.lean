/-
  C16 — the cache file's codec (`FB.Codec`): everything a build records survives the write/read cycle —
  at every nesting depth, for every JSON value in it — except what the file never held (the ghost fields)
  and the one thing the JSON text layer changes (tuples come back as lists, which no consumer distinguishes:
  `isEqual_textRT`).
-/
import FB.Codec
import FB.Props.C18
namespace FB
namespace Codec

theorem textRTL_strs (p : List String) : textRTL (p.map .str) = p.map .str := by
  induction p with
  | nil => rfl
  | cons c r ih => simp [textRTL, textRT, ih]

theorem textRT_pathJ (p : Path) : textRT (pathJ p) = pathJ p := by
  simp [pathJ, textRT, textRTL_strs]

theorem strsOf_strs (p : List String) : strsOf (p.map .str) = some p := by
  induction p with
  | nil => rfl
  | cons c r ih => simp [strsOf, strOf, ih]

theorem pathOf_pathJ (p : Path) : pathOf (pathJ p) = some p := by
  simp [pathOf, pathJ, strsOf_strs]

theorem cmpOf_name (c : Cmp) : cmpOf c.name = some c := by cases c <;> rfl
theorem errOf_name (e : OSErr) : errOf e.name = some e := by cases e <;> simp [OSErr.name, errOf]

theorem decQuery_encQuery (q : Query) : decQuery (encQuery q).1 (textRTL (encQuery q).2) = some q := by
  cases q <;> simp only [encQuery, decQuery, textRTL, textRT_pathJ, pathOf_pathJ, textRT, cmpOf_name, Option.map_some]

theorem textRTO_append (a b : List (String × Json)) : textRTO (a ++ b) = textRTO a ++ textRTO b := by
  induction a with
  | nil => rfl
  | cons x r ih => obtain ⟨k, v⟩ := x; simp [textRTO, ih]

theorem textRTO_flag (n : String) (b : Bool) : textRTO (flag n b) = flag n b := by
  cases b <;> simp [flag, textRTO, textRT]

theorem pathsOf_map (ds : List Path) : pathsOf (textRTL (ds.map pathJ)) = some ds := by
  induction ds with
  | nil => rfl
  | cons d r ih => simp [textRTL, pathsOf, textRT_pathJ, pathOf_pathJ, ih]

theorem look_nil (k : String) : look [] k = none := rfl

theorem look_cons (k' : String) (v : Json) (r : List (String × Json)) (k : String) :
    look ((k', v) :: r) k = if k' = k then some v else look r k := by
  by_cases h : k' = k <;> simp [look, List.find?, h]

theorem look_append (a b : List (String × Json)) (k : String) :
    look (a ++ b) k = (look a k).or (look b k) := by
  induction a with
  | nil => simp [look_nil]
  | cons x r ih => obtain ⟨k', v⟩ := x; by_cases h : k' = k <;> simp [look_cons, h, ih]

theorem look_flag_ne {n k : String} (h : n ≠ k) (b : Bool) : look (flag n b) k = none := by
  cases b <;> simp [flag, look_cons, look_nil, h]

theorem getFlag_append {a : List (String × Json)} {n : String} (h : look a n = none) (b : List (String × Json)) :
    getFlag (a ++ b) n = getFlag b n := by
  simp only [getFlag, look_append, h, Option.none_or]

theorem getFlag_flag {post : List (String × Json)} {n : String} (h : look post n = none) (b : Bool) :
    getFlag (flag n b ++ post) n = b := by
  cases b <;> simp [getFlag, flag, look_cons, h]

theorem decodeOp_buildFile {n : Nat} {kvs : List (String × Json)} {pj a k r cr : Json} {cn f : String}
    {subsJ : List Json} {p : Path} {cmp : Cmp} {subs : List Op}
    (htype : look kvs "type" = some (.str "build_file")) (hp : look kvs "filename" = some pj)
    (hc : look kvs "fileComparison" = some (.str cn)) (hf : look kvs "funcName" = some (.str f))
    (ha : look kvs "args" = some a) (hk : look kvs "kwargs" = some k)
    (hs : look kvs "suboperations" = some (.arr subsJ)) (hr : look kvs "returnValue" = some r)
    (hcr : look kvs "fileComparisonResult" = some cr)
    (hpath : pathOf pj = some p) (hcmp : cmpOf cn = some cmp) (hsubs : decodeOps n subsJ = some subs)
    {raised sf : Bool} (hraised : getFlag kvs "raised" = raised) (hsf : getFlag kvs "setupFailed" = sf) :
    decodeOp (n + 1) (.obj kvs) = some (.buildFile p cmp f a k subs r cr raised sf "") := by
  simp only [decodeOp, htype, hp, hc, hf, ha, hk, hs, hr, hcr, hpath, hcmp, hsubs, hraised, hsf]

theorem decodeOp_subbuild {n : Nat} {kvs : List (String × Json)} {a k r : Json} {f : String}
    {subsJ : List Json} {subs : List Op}
    (htype : look kvs "type" = some (.str "subbuild")) (hf : look kvs "funcName" = some (.str f))
    (ha : look kvs "args" = some a) (hk : look kvs "kwargs" = some k)
    (hs : look kvs "suboperations" = some (.arr subsJ)) (hr : look kvs "returnValue" = some r)
    (hsubs : decodeOps n subsJ = some subs)
    {raised sf : Bool} (hraised : getFlag kvs "raised" = raised) (hsf : getFlag kvs "setupFailed" = sf) :
    decodeOp (n + 1) (.obj kvs) = some (.subbuild f a k subs r raised sf) := by
  simp only [decodeOp, htype, hf, ha, hk, hs, hr, hsubs, hraised, hsf]

theorem encQuery_name_ne (q : Query) : (encQuery q).1 ≠ "build_file" ∧ (encQuery q).1 ≠ "subbuild" := by
  cases q <;> simp [encQuery]

theorem decodeOp_simple {n : Nat} {kvs : List (String × Json)} {name : String} {args : List Json} {r : Json}
    {q : Query} {exc : Option OSErr} (htype : look kvs "type" = some (.str name)) (h1 : name ≠ "build_file")
    (h2 : name ≠ "subbuild") (hargs : look kvs "args" = some (.arr args)) (hret : look kvs "returnValue" = some r)
    (hq : decQuery name args = some q) (hexc : look kvs "exceptionType" = exc.map fun e => .str e.name) :
    decodeOp (n + 1) (.obj kvs) = some (.simple q r exc (.ok .null)) := by
  cases exc <;> simp only [decodeOp, htype, hargs, hret, hq, hexc, Option.map_none, Option.map_some, errOf_name]

mutual
/-- C16: an operation record of any shape and depth is read back as it was written -/
theorem decode_encode : (o : Op) → ∀ fuel, depth o ≤ fuel → decodeOp fuel (textRT (encodeOp o)) = some (strip o)
  | .simple q ret exc ans, 0, h => absurd h (Nat.not_succ_le_zero 0)
  | .simple q ret exc ans, n + 1, _ => by
    simp only [encodeOp, textRT, textRTO_append, textRTO, strip]
    refine decodeOp_simple ?_ (encQuery_name_ne q).1 (encQuery_name_ne q).2 ?_ ?_ (decQuery_encQuery q) ?_
    iterate 3 simp only [look_append, look_cons, String.reduceEq, ↓reduceIte, Option.some_or]
    cases exc <;> simp only [look_append, look_cons, look_nil, textRTO, textRT, String.reduceEq, ↓reduceIte,
      Option.none_or, Option.map_none, Option.map_some]
  | .buildFile p cmp f a k subs r cr raised sf ct, 0, h => absurd h (Nat.not_succ_le_zero _)
  | .buildFile p cmp f a k subs r cr raised sf ct, n + 1, h => by
    have hsubs := decodeOps_encodeOps subs n (Nat.le_of_succ_le_succ h)
    simp only [encodeOp, textRT, textRTO_append, textRTO, textRTO_flag, textRT_pathJ, strip, List.append_assoc]
    refine decodeOp_buildFile ?_ ?_ ?_ ?_ ?_ ?_ ?_ ?_ ?_ (pathOf_pathJ p) (cmpOf_name cmp) hsubs ?_ ?_
    all_goals simp only [look_append, look_cons, look_nil, look_flag_ne, getFlag_append, getFlag_flag, String.reduceEq,
      ne_eq, not_false_eq_true, ↓reduceIte, Option.none_or, Option.or_none]
  | .subbuild f a k subs r raised sf, 0, h => absurd h (Nat.not_succ_le_zero _)
  | .subbuild f a k subs r raised sf, n + 1, h => by
    have hsubs := decodeOps_encodeOps subs n (Nat.le_of_succ_le_succ h)
    simp only [encodeOp, textRT, textRTO_append, textRTO, textRTO_flag, strip, List.append_assoc]
    refine decodeOp_subbuild ?_ ?_ ?_ ?_ ?_ ?_ hsubs ?_ ?_
    all_goals simp only [look_append, look_cons, look_nil, look_flag_ne, getFlag_append, getFlag_flag, String.reduceEq,
      ne_eq, not_false_eq_true, ↓reduceIte, Option.none_or, Option.or_none]
theorem decodeOps_encodeOps : (os : List Op) → ∀ fuel, depthL os ≤ fuel →
    decodeOps fuel (textRTL (encodeOps os)) = some (stripL os)
  | [], _, _ => by simp only [encodeOps, textRTL, decodeOps, stripL]
  | o :: os, fuel, h => by
    have h1 := decode_encode o fuel (Nat.le_trans (Nat.le_max_left _ _) h)
    have h2 := decodeOps_encodeOps os fuel (Nat.le_trans (Nat.le_max_right _ _) h)
    simp only [encodeOps, textRTL, decodeOps, h1, h2, stripL]
end

def stripRec (c : CacheRec) : CacheRec := { c with roots := stripL c.roots, versions := textRTO c.versions }

/-- **C16**: the whole cache document: build name, created directories, function versions and the
    operation forest are read back as written. -/
theorem read_write (c : CacheRec) (fuel : Nat) (h : depthL c.roots ≤ fuel) :
    readDoc fuel (textRT (writeDoc c)) = some (stripRec c) := by
  have h1 := decodeOps_encodeOps c.roots fuel h
  simp only [writeDoc, textRT, textRTO, readDoc, look_cons, String.reduceEq, ↓reduceIte, pathsOf_map, h1, stripRec]

mutual
/-- the text layer changes nothing in a sanitized value (arguments, return values of build functions,
    versions, comparison results) -/
theorem textRT_of_wf : (j : Json) → j.wf = true → textRT j = j
  | .null, _ => rfl
  | .bool _, _ => rfl
  | .num _, _ => rfl
  | .str _, _ => rfl
  | .tup _, h => by simp [Json.wf] at h
  | .arr xs, h => by
    simp only [Json.wf] at h
    simp [textRT, textRTL_of_wf xs h]
  | .obj kvs, h => by
    simp only [Json.wf, Bool.and_eq_true] at h
    simp [textRT, textRTO_of_wf kvs h.1]
theorem textRTL_of_wf : (xs : List Json) → Json.wfL xs = true → textRTL xs = xs
  | [], _ => rfl
  | x :: r, h => by
    simp only [Json.wfL, Bool.and_eq_true] at h
    simp [textRTL, textRT_of_wf x h.1, textRTL_of_wf r h.2]
theorem textRTO_of_wf : (kvs : List (String × Json)) → Json.wfO kvs = true → textRTO kvs = kvs
  | [], _ => rfl
  | (k, v) :: r, h => by
    simp only [Json.wfO, Bool.and_eq_true] at h
    simp [textRTO, textRT_of_wf v h.1, textRTO_of_wf r h.2]
end

theorem lookupWith_textRTO (f : Json → Bool) (k : String) (b : List (String × Json)) :
    lookupWith f k (textRTO b) = lookupWith (fun x => f (textRT x)) k b := by
  induction b with
  | nil => rfl
  | cons x r ih => obtain ⟨k', v'⟩ := x; simp only [textRTO, lookupWith, ih]

theorem length_textRTO (b : List (String × Json)) : (textRTO b).length = b.length := by
  induction b with
  | nil => rfl
  | cons x r ih => obtain ⟨k', v'⟩ := x; simp [textRTO, ih]

mutual
/-- a value that went through the file (tuples turned into lists) is JSON-equal to exactly the values the
    original is JSON-equal to: what `walk` recorded still replays -/
theorem isEqual_textRT : (a b : Json) → isEqual a (textRT b) = isEqual a b
  | _, .null => rfl
  | _, .bool _ => rfl
  | _, .num _ => rfl
  | _, .str _ => rfl
  | a, .arr ys => by
    cases a with
    | arr xs => exact isEqualL_textRT xs ys
    | tup xs => exact isEqualL_textRT xs ys
    | _ => rfl
  | a, .tup ys => by
    cases a with
    | arr xs => exact isEqualL_textRT xs ys
    | tup xs => exact isEqualL_textRT xs ys
    | _ => rfl
  | a, .obj kb => by
    cases a with
    | obj ka => simp only [textRT, isEqual, length_textRTO, subObj_textRT ka kb]
    | _ => rfl
theorem isEqualL_textRT : (xs ys : List Json) → isEqualL xs (textRTL ys) = isEqualL xs ys
  | [], [] => rfl
  | [], _ :: _ => by simp [textRTL, isEqualL]
  | _ :: _, [] => by simp [textRTL, isEqualL]
  | x :: xs, y :: ys => by
    simp only [textRTL, isEqualL]
    rw [isEqual_textRT x y, isEqualL_textRT xs ys]
theorem subObj_textRT : (ka kb : List (String × Json)) → subObj ka (textRTO kb) = subObj ka kb
  | [], _ => by simp [subObj]
  | (k, v) :: rest, kb => by
    simp only [subObj]
    rw [lookupWith_textRTO, subObj_textRT rest kb]
    congr 1
    congr 1
    funext x
    exact isEqual_textRT v x
end

mutual
/-- the JSON values a build function passes or returns are sanitized: the text layer leaves them alone -/
def FixedOp : Op → Prop
  | .simple _ _ _ _ => True
  | .buildFile _ _ _ a k subs r cr _ _ _ => textRT a = a ∧ textRT k = k ∧ textRT r = r ∧ textRT cr = cr ∧ FixedOps subs
  | .subbuild _ a k subs r _ _ => textRT a = a ∧ textRT k = k ∧ textRT r = r ∧ FixedOps subs
def FixedOps : List Op → Prop
  | [] => True
  | o :: os => FixedOp o ∧ FixedOps os
end

mutual
/-- **C16, behaviourally**: a record that went through the cache file is accepted or rejected by the next
    build exactly like the record in memory, in every state, with the same resulting state -/
theorem replayOp_strip : (o : Op) → FixedOp o → ∀ s, Impl.replayOp (strip o) s = Impl.replayOp o s
  | .simple q ret exc ans, _, s => by
    simp only [strip, Impl.replayOp, isEqual_textRT]
  | .buildFile p cmp f a k subs r cr raised sf ct, h, s => by
    obtain ⟨ha, hk, hr, hcr, hsubs⟩ := h
    simp only [strip, ha, hk, hr, hcr]
    unfold Impl.replayOp
    simp only [replayOps_strip subs hsubs]
  | .subbuild f a k subs r raised sf, h, s => by
    obtain ⟨ha, hk, hr, hsubs⟩ := h
    simp only [strip, ha, hk, hr]
    unfold Impl.replayOp
    simp only [replayOps_strip subs hsubs]
theorem replayOps_strip : (os : List Op) → FixedOps os → ∀ s, Impl.replayOps (stripL os) s = Impl.replayOps os s
  | [], _, s => rfl
  | o :: os, h, s => by
    simp only [stripL, Impl.replayOps, replayOp_strip o h.1 s]
    cases Impl.replayOp o s with
    | none => rfl
    | some s' => exact replayOps_strip os h.2 s'
end

example : decodeOp 5 (textRT (encodeOp (.subbuild "f" (.arr [.num (.int 1)]) (.obj []) [.simple (.walk ["a"] true)
    (.arr [.tup [.str "<R>/a", .arr [], .arr [.str "x"]]]) none (.ok .null)] .null false false))) =
    some (.subbuild "f" (.arr [.num (.int 1)]) (.obj []) [.simple (.walk ["a"] true)
      (.arr [.arr [.str "<R>/a", .arr [], .arr [.str "x"]]]) none (.ok .null)] .null false false) :=
  decode_encode _ 5 (by decide)

end Codec
end FB

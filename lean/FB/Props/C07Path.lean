/-
  C07, the path half: `_sanitize_filename` (`FB.PathNorm.abspath`) maps every spelling of a path — redundant
  separators, `.` components, `name/..` detours, a trailing separator, relative to the working directory — to
  the same absolute path, whose components contain no empty name, no `.` and no `..`; normalising twice is
  normalising once.
-/
import FB.PathNorm
import Mathlib.Data.List.Basic
namespace FB
namespace PathNorm

theorem loop_drop (abs : Bool) (st r : List String) {c : String} (hc : c = "" ∨ c = ".") :
    loop abs st (c :: r) = loop abs st r := by
  rw [loop, if_pos hc]

theorem loop_push (abs : Bool) (st r : List String) {c : String} (hc : ¬ (c = "" ∨ c = "."))
    (hp : c ≠ ".." ∨ (!abs ∧ st = []) ∨ (st.head? = some "..")) : loop abs st (c :: r) = loop abs (c :: st) r := by
  rw [loop, if_neg hc, if_pos hp]

theorem loop_pop (abs : Bool) (st r : List String) {c : String} (hc : ¬ (c = "" ∨ c = "."))
    (hp : ¬ (c ≠ ".." ∨ (!abs ∧ st = []) ∨ (st.head? = some ".."))) : loop abs st (c :: r) = loop abs st.tail r := by
  rw [loop, if_neg hc, if_neg hp]

theorem loop_append (abs : Bool) (a b : List String) : ∀ st, loop abs st (a ++ b) = loop abs (loop abs st a) b := by
  induction a with
  | nil => intro st; rfl
  | cons c r ih =>
    intro st
    rw [List.cons_append]
    by_cases hc : c = "" ∨ c = "."
    · rw [loop_drop abs st _ hc, loop_drop abs st _ hc]; exact ih st
    · by_cases hp : c ≠ ".." ∨ (!abs ∧ st = []) ∨ (st.head? = some "..")
      · rw [loop_push abs st _ hc hp, loop_push abs st _ hc hp]; exact ih _
      · rw [loop_pop abs st _ hc hp, loop_pop abs st _ hc hp]; exact ih _

/-- redundant separators (`a//b`, a trailing `/`) and `.` components do not matter -/
theorem loop_skip (abs : Bool) (a b : List String) (st : List String) (c : String) (hc : c = "" ∨ c = ".") :
    loop abs st (a ++ c :: b) = loop abs st (a ++ b) := by
  rw [loop_append, loop_append, loop_drop abs _ b hc]

/-- a detour `name/..` does not matter -/
theorem loop_detour (abs : Bool) (a b : List String) (st : List String) (c : String)
    (h1 : c ≠ "") (h2 : c ≠ ".") (h3 : c ≠ "..") :
    loop abs st (a ++ c :: ".." :: b) = loop abs st (a ++ b) := by
  rw [loop_append, loop_append]
  rw [loop_push abs _ _ (fun h => h.elim h1 h2) (Or.inl h3), loop_pop abs _ b (by decide)]
  · rfl
  · rintro (h | ⟨_, h⟩ | h)
    · exact h rfl
    · cases h
    · exact h3 (Option.some.inj h)

/-- what a normalised component list looks like -/
def Clean (abs : Bool) (l : List String) : Prop :=
  (∀ c ∈ l, c ≠ "" ∧ c ≠ ".") ∧ (abs = true → ".." ∉ l)

theorem loop_clean (abs : Bool) : ∀ (comps st : List String), Clean abs st → Clean abs (loop abs st comps) := by
  intro comps
  induction comps with
  | nil => intro st h; exact h
  | cons c r ih =>
    intro st h
    by_cases hc : c = "" ∨ c = "."
    · rw [loop_drop abs st r hc]; exact ih st h
    · by_cases hpush : c ≠ ".." ∨ (!abs ∧ st = []) ∨ (st.head? = some "..")
      · rw [loop_push abs st r hc hpush]
        apply ih
        refine ⟨?_, ?_⟩
        · intro x hx
          rcases List.mem_cons.mp hx with rfl | hx
          · exact ⟨fun e => hc (Or.inl e), fun e => hc (Or.inr e)⟩
          · exact h.1 x hx
        · intro ha hm
          rcases List.mem_cons.mp hm with hcd | hm
          · -- `..` is pushed only for relative paths, or on top of another `..`
            rcases hpush with hne | ⟨hrel, _⟩ | hhead
            · exact hne hcd.symm
            · rw [ha] at hrel; cases hrel
            · exact h.2 ha (List.mem_of_mem_head? hhead)
          · exact h.2 ha hm
      · rw [loop_pop abs st r hc hpush]
        apply ih
        exact ⟨fun x hx => h.1 x (List.mem_of_mem_tail hx), fun ha hm => h.2 ha (List.mem_of_mem_tail hm)⟩

/-- **C07 (path)**: a sanitised file name is absolute and its components contain no empty name, no `.`
    and no `..` -/
theorem abspath_clean (cwd comps : List String) (slashes : Nat) (hcwd : Clean true cwd) :
    let r := abspath cwd slashes comps
    (r.1 = 1 ∨ r.1 = 2) ∧ (∀ c ∈ r.2, c ≠ "" ∧ c ≠ "." ∧ c ≠ "..") := by
  simp only [abspath]
  split
  · rename_i hs
    simp only [normpath]
    refine ⟨by unfold initSlashes; rw [if_neg hs]; split <;> simp, ?_⟩
    have := loop_clean (decide (slashes ≠ 0)) comps [] ⟨(fun c hc => nomatch hc), (fun _ hm => nomatch hm)⟩
    intro c hc
    rw [List.mem_reverse] at hc
    exact ⟨(this.1 c hc).1, (this.1 c hc).2, fun e => this.2 (by simpa using hs) (e ▸ hc)⟩
  · simp only [normpath]
    refine ⟨Or.inl rfl, ?_⟩
    have := loop_clean true (cwd ++ comps) [] ⟨(fun c hc => nomatch hc), (fun _ hm => nomatch hm)⟩
    intro c hc
    rw [List.mem_reverse] at hc
    have h1 : decide ((1 : Nat) ≠ 0) = true := by decide
    rw [h1] at hc
    exact ⟨(this.1 c hc).1, (this.1 c hc).2, fun e => this.2 rfl (e ▸ hc)⟩

theorem loop_id_of_clean : ∀ (l st : List String), Clean true l → loop true st l = l.reverse ++ st := by
  intro l
  induction l with
  | nil => intro st _; simp [loop]
  | cons c r ih =>
    intro st h
    have hc := h.1 c (List.mem_cons_self ..)
    have hdd : c ≠ ".." := fun e => h.2 rfl (e ▸ List.mem_cons_self ..)
    rw [loop_push true st r (fun e => e.elim hc.1 hc.2) (Or.inl hdd), ih _ ⟨fun x hx => h.1 x (List.mem_cons_of_mem _ hx), fun ha hm => h.2 ha (List.mem_cons_of_mem _ hm)⟩]
    simp

/-- **C07 (path)**: sanitising is idempotent: a sanitised file name is its own sanitised form -/
theorem abspath_idempotent (cwd comps : List String) (slashes : Nat) (hcwd : Clean true cwd) :
    abspath cwd (abspath cwd slashes comps).1 (abspath cwd slashes comps).2 = abspath cwd slashes comps := by
  obtain ⟨hs, hcl⟩ := abspath_clean cwd comps slashes hcwd
  have hclean : Clean true (abspath cwd slashes comps).2 :=
    ⟨fun c hc => ⟨(hcl c hc).1, (hcl c hc).2.1⟩, fun _ hm => (hcl _ hm).2.2 rfl⟩
  generalize abspath cwd slashes comps = r at hs hcl hclean
  obtain ⟨n, l⟩ := r
  simp only at hs hclean
  have hn : n ≠ 0 := by rcases hs with rfl | rfl <;> decide
  have hd : decide (n ≠ 0) = true := by simpa using hn
  simp only [abspath, hn, ne_eq, not_false_eq_true, if_true, normpath, decide_true]
  rw [loop_id_of_clean l [] hclean]
  rcases hs with rfl | rfl <;> simp [initSlashes]

/-- **C07 (path)**: a relative spelling and the absolute spelling of the same file are sanitised to the same
    name -/
theorem abspath_relative (cwd comps : List String) : abspath cwd 0 comps = abspath cwd 1 (cwd ++ comps) := by
  simp [abspath]

example : abspath ["tmp", "w"] 0 ["a", "", ".", "x", "..", "b", ""] = (1, ["tmp", "w", "a", "b"]) := by decide
example : abspath ["tmp", "w"] 2 ["a", "..", "..", "b"] = (2, ["b"]) := by decide
example : abspath ["tmp", "w"] 3 ["a"] = (1, ["a"]) := by decide

end PathNorm
end FB

/-
  `build_dirs.py` in general (with failed builds around), on top of `created_files.py`:
  * the reservation counts of `BuildDirs` evolve exactly like the started-counts of `CreatedFiles` (`Shadow`,
    `started_shadow`, `error_shadow`: both run the same two loops), so the proved
    invariant of `CreatedFiles` transfers — `hasCount_iff_live`: within the protocol a directory is reserved exactly
    if a live output lies below it;
  * `started_general` / `error_general`: what the two calls do to the sets "created" and "created, then virtually
    removed" whatever these hold.
-/
import FB.Props.BuildDirsInv
import FB.Props.CreatedFilesInv
namespace FB
namespace BuildDirs

/-- `b` and `c` hold the same reservation counts -/
def Shadow (b : BD) (c : CreatedFiles.CF) : Prop := b.counts = c.count

theorem Shadow.getCount {b : BD} {c : CreatedFiles.CF} (hs : Shadow b c) (d : Path) :
    getCount b d = CreatedFiles.getCount c d := by
  unfold BuildDirs.getCount CreatedFiles.getCount; rw [hs]; cases c.count.find? (fun x => x.1 = d) <;> rfl

theorem visit_counts (cds : List Path) (b : BD) (parent : Path) : (visit b cds parent).counts = (bump b parent).counts := by
  unfold visit
  split <;> rfl

theorem Shadow.bump {b : BD} {c : CreatedFiles.CF} (hs : Shadow b c) (parent : Path) :
    (bump b parent).counts = CreatedFiles.setCount c.count parent (CreatedFiles.getCount c parent + 1) := by
  show setCount b.counts parent (BuildDirs.getCount b parent + 1) = _
  rw [hs.getCount, hs]; rfl

theorem startedLoop_shadow (cds : List Path) (b : BD) (c : CreatedFiles.CF) (parent : Path) (locked : List Path)
    (hs : Shadow b c) : Shadow (startedLoop b cds parent locked).1 (CreatedFiles.startedLoop c parent) := by
  induction parent using dropLast_induction generalizing b c locked with
  | _ parent ih =>
    unfold Shadow
    rw [startedLoop_eq, CreatedFiles.startedLoop_eq, hs.getCount]
    by_cases hn : CreatedFiles.getCount c parent > 0
    · rw [if_pos hn, if_pos hn]; exact hs.bump parent
    · rw [if_neg hn, if_neg hn]
      have hv : Shadow (visit b cds parent) (CreatedFiles.visit c parent) :=
        (visit_counts cds b parent).trans ((hs.bump parent).trans (CreatedFiles.visit_count c parent).symm)
      by_cases hp : parent = []
      · rw [if_pos hp, if_pos hp]; exact hv
      · rw [if_neg hp, if_neg hp]; exact ih hp _ _ _ hv

theorem regIf_counts (cds : List Path) (b : BD) (parent : Path) : (regIf b cds parent).counts = b.counts := by
  unfold regIf
  split <;> rfl

theorem registerUp_counts (cds : List Path) (b : BD) (parent : Path) (locked : List Path) :
    (registerUp b cds parent locked).1.counts = b.counts :=
  registerUp_rel cds (fun b _ b' => b'.counts = b.counts) (fun b => regIf_counts cds b [])
    (fun b parent _ _ ih => ih.trans (regIf_counts cds b parent)) b parent locked

theorem started_shadow (b : BD) (c : CreatedFiles.CF) (p : Path) (cds : List Path) (hs : Shadow b c) :
    Shadow (started b p cds).1 (CreatedFiles.started c p) := by
  unfold started CreatedFiles.started
  cases p with
  | nil => exact hs
  | cons a r =>
    have h1 := startedLoop_shadow cds { b with removedFiles := discard b.removedFiles (a :: r) } c (a :: r).dropLast [] hs
    simp only
    split
    · exact h1
    · exact (registerUp_counts ..).trans h1

theorem dropDir_counts (b : BD) (parent : Path) : (dropDir b parent).counts = b.counts.filter (fun x => x.1 ≠ parent) := by
  unfold dropDir
  split <;> rfl

theorem errorLoop_shadow (b : BD) (c c' : CreatedFiles.CF) (parent : Path) (hs : Shadow b c)
    (he : CreatedFiles.errorLoop c parent = some c') : ∃ b', errorLoop b parent = some b' ∧ Shadow b' c' := by
  induction parent using dropLast_induction generalizing b c with
  | _ parent ih =>
    rw [CreatedFiles.errorLoop] at he
    rw [errorLoop_eq, hs]
    cases hf : c.count.find? (fun x => x.1 = parent) with
    | none => rw [hf] at he; cases he
    | some x =>
      rw [hf] at he
      dsimp only at he ⊢
      by_cases hk : x.2 - 1 > 0
      · rw [if_pos hk] at he ⊢
        cases he
        exact ⟨_, rfl, rfl⟩
      · rw [if_neg hk] at he ⊢
        by_cases hcon : (!c.dirs.contains parent) = true
        · rw [if_pos hcon] at he; cases he
        · rw [if_neg hcon] at he
          cases hr : CreatedFiles.removeFromSub
              { c with count := CreatedFiles.popCount c.count parent, dirs := c.dirs.erase parent } parent with
          | none => rw [hr] at he; cases he
          | some c2 =>
            rw [hr] at he
            dsimp only at he
            have hd : Shadow (dropDir b parent) c2 :=
              (dropDir_counts b parent).trans (by rw [hs, CreatedFiles.removeFromSub_count _ _ _ hr]; rfl)
            by_cases hp : parent = []
            · rw [dif_pos hp] at he; rw [if_pos hp]
              cases he
              exact ⟨_, rfl, hd⟩
            · rw [dif_neg hp] at he; rw [if_neg hp]
              exact ih hp _ _ hd he

theorem error_shadow (b : BD) (c c' : CreatedFiles.CF) (p : Path) (hs : Shadow b c)
    (he : CreatedFiles.error c p = some c') : ∃ b', error b p = some b' ∧ Shadow b' c' := by
  unfold error
  unfold CreatedFiles.error at he
  cases p with
  | nil => cases he; exact ⟨b, rfl, hs⟩
  | cons a r => exact errorLoop_shadow b c c' _ hs he

/-- the recorded sets after the first loop of `started_building_file` (`SLG`: started loop, in general), entered
    with `parent`; `RUG` below is the same for the second loop (`registerUp`) -/
structure SLG (cds : List Path) (b b' : BD) (parent : Path) : Prop where
  sub : ∀ d ∈ b.created, d ∈ b'.created
  src : ∀ d ∈ b'.created, d ∈ b.created ∨ (d ∈ cds ∧ d <+: parent)
  errSub : ∀ d ∈ b'.errorCreated, d ∈ b.errorCreated
  errGone : ∀ d ∈ b.errorCreated, d ∈ b'.errorCreated ∨ d ∈ b'.created

theorem SLG.of_eq {b b' : BD} (cds : List Path) (parent : Path) (hc : b'.created = b.created)
    (he : b'.errorCreated = b.errorCreated) : SLG cds b b' parent :=
  ⟨fun _ h => hc ▸ h, fun _ h => Or.inl (hc ▸ h), fun _ h => he ▸ h, fun _ h => Or.inl (he ▸ h)⟩

theorem SLG.refl (cds : List Path) (b : BD) (parent : Path) : SLG cds b b parent := SLG.of_eq cds parent rfl rfl

theorem SLG.trans_up {cds : List Path} {b b1 b2 : BD} {parent : Path} (h1 : SLG cds b b1 parent)
    (h2 : SLG cds b1 b2 parent.dropLast) : SLG cds b b2 parent := by
  refine ⟨fun d hd => h2.sub d (h1.sub d hd), ?_, fun d hd => h1.errSub d (h2.errSub d hd), ?_⟩
  · intro d hd
    rcases h2.src d hd with h | ⟨hc, hp⟩
    · exact h1.src d h
    · exact Or.inr ⟨hc, hp.trans (List.dropLast_prefix _)⟩
  · intro d hd
    rcases h1.errGone d hd with h | h
    · exact h2.errGone d h
    · exact Or.inr (h2.sub d h)

theorem visit_general (cds : List Path) (b : BD) (parent : Path) : SLG cds b (visit b cds parent) parent := by
  unfold visit
  split
  · rename_i hcon
    refine ⟨fun d hd => (mem_add _ _ _).mpr (Or.inr hd), ?_, fun d hd => ((mem_discard _ _ _).mp hd).1, ?_⟩
    · intro d hd
      rcases (mem_add _ _ _).mp hd with rfl | hd
      · exact Or.inr ⟨by simpa using hcon, List.prefix_refl _⟩
      · exact Or.inl hd
    · intro d hd
      by_cases hdn : d = parent
      · exact Or.inr ((mem_add _ _ _).mpr (Or.inl hdn))
      · exact Or.inl ((mem_discard _ _ _).mpr ⟨hd, hdn⟩)
  · exact SLG.of_eq cds parent rfl rfl

theorem startedLoop_general (cds : List Path) (b : BD) (parent : Path) (locked : List Path) :
    SLG cds b (startedLoop b cds parent locked).1 parent :=
  startedLoop_rel cds (fun b parent b' => SLG cds b b' parent) (fun _ parent _ => SLG.of_eq cds parent rfl rfl)
    (fun b _ => visit_general cds b []) (fun b parent _ _ _ ih => (visit_general cds b parent).trans_up ih)
    b parent locked

/-- what the second loop has done once it has dealt with the directories in `S` -/
structure RUG (cds : List Path) (b b' : BD) (S : Path → Prop) : Prop where
  counts : b'.counts = b.counts
  sub : ∀ d ∈ b.created, d ∈ b'.created
  src : ∀ d ∈ b'.created, d ∈ b.created ∨ ((d ∈ cds ∨ d ∈ b.errorCreated) ∧ S d)
  errSub : ∀ d ∈ b'.errorCreated, d ∈ b.errorCreated
  errGone : ∀ d ∈ b.errorCreated, d ∈ b'.errorCreated ∨ (d ∈ b'.created ∧ S d)
  reg : ∀ d, S d → (d ∈ cds ∨ d ∈ b.errorCreated) → hasCount b d = true → d ∈ b'.created

theorem regIf_general (cds : List Path) (b : BD) (parent : Path) : RUG cds b (regIf b cds parent) (· = parent) := by
  unfold regIf
  split
  · rename_i hc
    simp only [Bool.and_eq_true, Bool.or_eq_true] at hc
    refine ⟨rfl, fun d hd => (mem_add _ _ _).mpr (Or.inr hd), ?_, fun d hd => ((mem_discard _ _ _).mp hd).1, ?_,
      fun d hd _ _ => (mem_add _ _ _).mpr (Or.inl hd)⟩
    · intro d hd
      rcases (mem_add _ _ _).mp hd with rfl | hd
      · refine Or.inr ⟨?_, rfl⟩
        rcases hc.1.1 with h | h
        · left; simpa using h
        · right; simpa using h
      · exact Or.inl hd
    · intro d hd
      by_cases hdn : d = parent
      · exact Or.inr ⟨(mem_add _ _ _).mpr (Or.inl hdn), hdn⟩
      · exact Or.inl ((mem_discard _ _ _).mpr ⟨hd, hdn⟩)
  · rename_i hc
    refine ⟨rfl, fun _ h => h, fun _ h => Or.inl h, fun _ h => h, fun _ h => Or.inl h, ?_⟩
    rintro d rfl hcd hhas
    have h1 : (cds.contains d || b.errorCreated.contains d) = true := by
      rcases hcd with h | h <;> simp [h]
    simp only [h1, hhas, Bool.and_true, Bool.true_and, Bool.not_eq_true'] at hc
    simpa using hc

theorem RUG.trans_up {cds : List Path} {b b1 b2 : BD} {parent : Path} (hp : parent ≠ [])
    (h1 : RUG cds b b1 (· = parent)) (h2 : RUG cds b1 b2 (· <+: parent.dropLast)) : RUG cds b b2 (· <+: parent) := by
  have hup : ∀ {d : Path}, d <+: parent.dropLast → d <+: parent := fun h => h.trans (List.dropLast_prefix _)
  refine ⟨h2.counts.trans h1.counts, fun d hd => h2.sub d (h1.sub d hd), ?_, fun d hd => h1.errSub d (h2.errSub d hd),
    ?_, ?_⟩
  · intro d hd
    rcases h2.src d hd with h | ⟨h, hs⟩
    · rcases h1.src d h with h' | ⟨h', rfl⟩
      · exact Or.inl h'
      · exact Or.inr ⟨h', List.prefix_refl _⟩
    · exact Or.inr ⟨h.imp id (h1.errSub d), hup hs⟩
  · intro d hd
    rcases h1.errGone d hd with h | ⟨h, rfl⟩
    · rcases h2.errGone d h with h' | ⟨h', hs⟩
      · exact Or.inl h'
      · exact Or.inr ⟨h', hup hs⟩
    · exact Or.inr ⟨h2.sub d h, List.prefix_refl _⟩
  · intro d hd hcd hhas
    by_cases hdp : d = parent
    · exact h2.sub d (h1.reg d hdp hcd hhas)
    · refine h2.reg d (prefix_dropLast_of_ne hd hdp) ?_ (by rw [hasCount_congr h1.counts]; exact hhas)
      refine hcd.imp id (fun h => ?_)
      rcases h1.errGone d h with h' | ⟨_, h'⟩
      · exact h'
      · exact absurd h' hdp

theorem registerUp_general (cds : List Path) (b : BD) (parent : Path) (locked : List Path) :
    RUG cds b (registerUp b cds parent locked).1 (· <+: parent) :=
  registerUp_rel cds (fun b parent b' => RUG cds b b' (· <+: parent))
    (fun b => by simpa only [List.prefix_nil] using regIf_general cds b [])
    (fun b parent _ hp ih => (regIf_general cds b parent).trans_up hp ih) b parent locked

/-- the recorded sets after `started_building_file(p, cds)`: as they were, except that every directory above the
    file that the caller made (`cds`) or that was virtually removed (`_error_created_dirs`) is recorded as created -/
structure StartedGen (cds : List Path) (b b' : BD) (p : Path) : Prop where
  sub : ∀ d ∈ b.created, d ∈ b'.created
  src : ∀ d ∈ b'.created, d ∈ b.created ∨ ((d ∈ cds ∨ d ∈ b.errorCreated) ∧ d <+: p.dropLast)
  errSub : ∀ d ∈ b'.errorCreated, d ∈ b.errorCreated
  errGone : ∀ d ∈ b.errorCreated, d ∈ b'.errorCreated ∨ d ∈ b'.created
  reg : ∀ d, d <+: p.dropLast → (d ∈ cds ∨ d ∈ b.errorCreated) → d ∈ b'.created

/-- **`started_building_file`, in general** (with failed builds around).  The hypothesis: every directory above the
    file has a reservation afterwards — true within the protocol (`hasCount_iff_live`). -/
theorem started_general (b : BD) (p : Path) (cds : List Path) (hp : p ≠ [])
    (hall : ∀ d, d <+: p.dropLast → hasCount (started b p cds).1 d = true) :
    StartedGen cds b (started b p cds).1 p := by
  unfold started at hall ⊢
  cases p with
  | nil => exact absurd rfl hp
  | cons a r =>
    have h1 := startedLoop_general cds { b with removedFiles := discard b.removedFiles (a :: r) } (a :: r).dropLast []
    simp only at hall ⊢
    split
    · rename_i hskip
      simp only [Bool.and_eq_true, List.isEmpty_iff] at hskip
      refine ⟨h1.sub, fun d hd => (h1.src d hd).imp id (fun h => ⟨Or.inl h.1, h.2⟩), h1.errSub, h1.errGone, ?_⟩
      intro d _ hcd
      rcases hcd with h | h
      · rw [hskip.1] at h; cases h
      · rcases h1.errGone d h with h' | h'
        · rw [hskip.2] at h'; cases h'
        · exact h'
    · rename_i hskip
      rw [if_neg hskip] at hall
      have h2 := registerUp_general cds
        (startedLoop { b with removedFiles := discard b.removedFiles (a :: r) } cds (a :: r).dropLast []).1 (a :: r).dropLast
        (startedLoop { b with removedFiles := discard b.removedFiles (a :: r) } cds (a :: r).dropLast []).2
      refine ⟨fun d hd => h2.sub d (h1.sub d hd), ?_, fun d hd => h1.errSub d (h2.errSub d hd), ?_, ?_⟩
      · intro d hd
        rcases h2.src d hd with h | ⟨h, h'⟩
        · exact (h1.src d h).imp id (fun h => ⟨Or.inl h.1, h.2⟩)
        · exact Or.inr ⟨h.imp id (h1.errSub d), h'⟩
      · intro d hd
        rcases h1.errGone d hd with h | h
        · exact (h2.errGone d h).imp id And.left
        · exact Or.inr (h2.sub d h)
      · intro d hpre hcd
        have hhas := (hasCount_congr h2.counts d).symm.trans (hall d hpre)
        rcases hcd with h | h
        · exact h2.reg d hpre (Or.inl h) hhas
        · rcases h1.errGone d h with h' | h'
          · exact h2.reg d hpre (Or.inr h') hhas
          · exact h2.sub d h'

/-- **`error_building_file`, in general**: directories move from "created" to "created, then virtually removed" only,
    exactly those whose last reservation went; reservations only go -/
structure ErrorGen (b b' : BD) : Prop where
  sub : ∀ d ∈ b'.created, d ∈ b.created
  moved : ∀ d ∈ b.created, d ∈ b'.created ∨ (d ∈ b'.errorCreated ∧ hasCount b' d = false)
  errSub : ∀ d ∈ b.errorCreated, d ∈ b'.errorCreated
  errSrc : ∀ d ∈ b'.errorCreated, d ∈ b.errorCreated ∨ (d ∈ b.created ∧ hasCount b' d = false)
  cnt : ∀ d, hasCount b' d = true → hasCount b d = true

theorem ErrorGen.of_eq {b b' : BD} (hc : b'.created = b.created) (he : b'.errorCreated = b.errorCreated)
    (cnt : ∀ d, hasCount b' d = true → hasCount b d = true) : ErrorGen b b' :=
  ⟨fun _ h => hc ▸ h, fun _ h => Or.inl (hc ▸ h), fun _ h => he ▸ h, fun _ h => Or.inl (he ▸ h), cnt⟩

theorem hasCount_of_find (b : BD) (d : Path) (y : Path × Nat) (hf : b.counts.find? (fun x => x.1 = d) = some y) :
    hasCount b d = true := by
  have hp := List.find?_some hf
  exact List.any_eq_true.mpr ⟨y, List.mem_of_find?_eq_some hf, hp⟩

theorem hasCount_dropDir (b : BD) (parent d : Path) :
    hasCount (dropDir b parent) d = (decide (d ≠ parent) && hasCount b d) := by
  rw [hasCount_congr (dropDir_counts b parent) (b := { b with counts := b.counts.filter (fun x => x.1 ≠ parent) })]
  by_cases hd : d = parent
  · subst hd; rw [hasCount_filter_self]; simp
  · rw [hasCount_filter b hd]; simp [hd]

theorem dropDir_general (b : BD) (parent : Path) : ErrorGen b (dropDir b parent) := by
  have hself : hasCount (dropDir b parent) parent = false := by rw [hasCount_dropDir]; simp
  have hcnt : ∀ d, hasCount (dropDir b parent) d = true → hasCount b d = true := by
    intro d hd
    rw [hasCount_dropDir, Bool.and_eq_true] at hd
    exact hd.2
  unfold dropDir at hself hcnt ⊢
  split
  · rename_i hcon
    rw [if_pos hcon] at hself hcnt
    have hmem : parent ∈ b.created := by simpa using hcon
    refine ⟨fun d hd => ((mem_discard _ _ _).mp hd).1, ?_, fun d hd => (mem_add _ _ _).mpr (Or.inr hd), ?_, hcnt⟩
    · intro d hd
      by_cases hdp : d = parent
      · subst hdp; exact Or.inr ⟨(mem_add _ _ _).mpr (Or.inl rfl), hself⟩
      · exact Or.inl ((mem_discard _ _ _).mpr ⟨hd, hdp⟩)
    · intro d hd
      rcases (mem_add _ _ _).mp hd with rfl | hd
      · exact Or.inr ⟨hmem, hself⟩
      · exact Or.inl hd
  · rename_i hcon
    rw [if_neg hcon] at hcnt
    exact ErrorGen.of_eq rfl rfl hcnt

theorem ErrorGen.trans {a b c : BD} (h1 : ErrorGen a b) (h2 : ErrorGen b c) : ErrorGen a c := by
  have hno : ∀ d, hasCount b d = false → hasCount c d = false := by
    intro d hb
    cases hcc : hasCount c d with
    | false => rfl
    | true => rw [h2.cnt d hcc] at hb; cases hb
  refine ⟨fun d hd => h1.sub d (h2.sub d hd), ?_, fun d hd => h2.errSub d (h1.errSub d hd), ?_, fun d hd => h1.cnt d (h2.cnt d hd)⟩
  · intro d hd
    rcases h1.moved d hd with h | ⟨h, hc⟩
    · exact h2.moved d h
    · exact Or.inr ⟨h2.errSub d h, hno d hc⟩
  · intro d hd
    rcases h2.errSrc d hd with h | ⟨h, hc⟩
    · rcases h1.errSrc d h with h' | ⟨h', hc'⟩
      · exact Or.inl h'
      · exact Or.inr ⟨h', hno d hc'⟩
    · exact Or.inr ⟨h1.sub d h, hc⟩

theorem errorLoop_general (b : BD) (parent : Path) (b' : BD) (he : errorLoop b parent = some b') : ErrorGen b b' :=
  errorLoop_rel (fun b _ b' => ErrorGen b b')
    (fun b parent x n hf _ => ErrorGen.of_eq rfl rfl (fun d hd => by
      rw [hasCount_setCount] at hd
      by_cases hdn : d = parent
      · subst hdn; exact hasCount_of_find b _ _ hf
      · simpa [hdn] using hd))
    (fun b => dropDir_general b []) (fun b parent _ _ ih => (dropDir_general b parent).trans ih) b parent b' he

theorem error_general (b b' : BD) (p : Path) (he : error b p = some b') : ErrorGen b b' := by
  unfold error at he
  cases p with
  | nil => cases he; exact ErrorGen.of_eq rfl rfl (fun _ h => h)
  | cons a r => exact errorLoop_general b _ b' he

theorem hasCount_of_getCount_pos (b : BD) (d : Path) (h : getCount b d > 0) : hasCount b d = true := by
  unfold getCount at h
  cases hf : b.counts.find? (fun x => x.1 = d) with
  | none => simp [hf] at h
  | some x => exact hasCount_of_find b d x hf

theorem getCount_pos_of_hasCount (b : BD) (hpos : ∀ x ∈ b.counts, 0 < x.2) (d : Path) (h : hasCount b d = true) :
    0 < getCount b d := by
  unfold getCount
  obtain ⟨y, hy, hyd⟩ := List.any_eq_true.mp h
  cases hf : b.counts.find? (fun x => x.1 = d) with
  | none => exact absurd hyd (List.find?_eq_none.mp hf y hy)
  | some z => exact hpos _ (List.mem_of_find?_eq_some hf)

/-- **within the protocol, a directory is reserved exactly if a live output lies below it** -/
theorem hasCount_iff_live (b : BD) (c : CreatedFiles.CF) (L : List Path) (hs : Shadow b c) (hf : CreatedFiles.Full c L)
    (hpos : ∀ x ∈ b.counts, 0 < x.2) (d : Path) :
    hasCount b d = true ↔ ∃ q ∈ L, CreatedFiles.properAnc d q := by
  rw [← hf.inv.dirs d, ← hf.inv.pos d, ← hs.getCount]
  exact ⟨getCount_pos_of_hasCount b hpos d, hasCount_of_getCount_pos b d⟩

end BuildDirs
end FB

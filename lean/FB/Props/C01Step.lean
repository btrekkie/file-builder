/-
  C01 over histories: one step of the induction.  If the two worlds agree up to modification times, the
  cache files name corresponding records, and the cache-logic world's record follows the program that wrote
  it, then a build gives the same result in both worlds and the invariant holds again — for the next
  program, whatever it is, as long as function names keep denoting the same functions (`Stable`) and the
  comparison results identify contents (`FaithfulRec`).
-/
import FB.Props.C01Outputs
namespace FB
open FS Spec

theorem sim_eraseFiles' (ps ps' : List Path) {a b : FS} (h : FS.Sim a b) (hm : ∀ q, q ∈ ps ↔ q ∈ ps') :
    FS.Sim (ps.foldl (fun fs p => if fs.isFile p then fs.erase p else fs) a)
           (ps'.foldl (fun fs p => if fs.isFile p then fs.erase p else fs) b) := by
  intro q
  rw [get_eraseFiles, get_eraseFiles, h.isFile q]
  by_cases hc : q ∈ ps' ∧ b.isFile q = true
  · have : q ∈ ps ∧ b.isFile q = true := ⟨(hm q).mpr hc.1, hc.2⟩
    simp [hc, this, Entry.sim]
  · have : ¬ (q ∈ ps ∧ b.isFile q = true) := fun hh => hc ⟨(hm q).mp hh.1, hh.2⟩
    simp only [hc, this, if_false]
    exact h q

/-- the records of the two worlds agree: same name, same created directories, same set of outputs -/
structure RecSim (r : Rec) (kr : CacheRec) : Prop where
  name : r.buildName = kr.buildName
  created : r.createdDirs = kr.createdDirs
  outputs : ∀ q, q ∈ r.outputs ↔ q ∈ kr.toRec.outputs

theorem RecSim.empty (name : String) (vs : List (String × Json)) :
    RecSim { buildName := name, outputs := [], createdDirs := [] } { buildName := name, versions := vs } :=
  ⟨rfl, rfl, fun _ => Iff.rfl⟩

theorem sim_preClean' {a b : FS} (h : FS.Sim a b) (cf : Path) (r : Rec) (kr : CacheRec) (hr : RecSim r kr) :
    FS.Sim (preClean a cf r) (preClean b cf kr.toRec) := by
  unfold preClean
  simp only
  have hc : kr.toRec.createdDirs = r.createdDirs := hr.created.symm
  rw [hc]
  apply sim_rmEmpty
  exact (sim_eraseFiles' r.outputs kr.toRec.outputs h hr.outputs).eraseFile cf

/-- the record the cache logic writes (`Cache.write`) -/
def newRec (name : String) (ops : List Op) (created : List Path) (vs : List (String × Json)) : CacheRec :=
  { buildName := name, roots := ops.filter Impl.isComplexRegistered, createdDirs := created, versions := vs }

def newSpecRec (name : String) (outs created : List Path) : Rec :=
  { buildName := name, outputs := outs, createdDirs := created }

/-- what a committed build leaves in the two worlds' record tables -/
structure NewRecs (ds : Nat) (name : String) (vs : List (String × Json)) (root : Prog)
    (w w' : World) (kw kw' : KWorld) : Prop where
  ex : ∃ r' ops created rr ww,
    w'.recs = (w.nextSerial, r') :: w.recs ∧
    kw'.recs = (kw.nextSerial, newRec name ops created vs) :: kw.recs ∧
    RecSim r' (newRec name ops created vs) ∧
    Follows ds root none ops rr ww

/-- **One build, in both worlds** (the step of the induction over histories). -/
theorem buildGo_step (w : World) (kw : KWorld) (cf : Path) (name : String) (vs : List (String × Json))
    (root : Prog) (ab : Nat) (r : Rec) (old : CacheRec)
    (hfs : FS.Sim w.fs kw.fs) (hds : w.dirSize = kw.dirSize) (hser : w.nextSerial = kw.nextSerial)
    (hrs : RecSim r old) (hok : CacheOK w.dirSize old vs root) :
    (Spec.buildGo w cf name root [] [] ab r).res = (Impl.buildGo kw cf name vs root [] [] ab old).res ∧
    FS.Sim (Spec.buildGo w cf name root [] [] ab r).world.fs (Impl.buildGo kw cf name vs root [] [] ab old).world.fs ∧
    (Spec.buildGo w cf name root [] [] ab r).world.dirSize = (Impl.buildGo kw cf name vs root [] [] ab old).world.dirSize ∧
    (Spec.buildGo w cf name root [] [] ab r).world.nextSerial =
      (Impl.buildGo kw cf name vs root [] [] ab old).world.nextSerial ∧
    ((∀ e, (Spec.buildGo w cf name root [] [] ab r).res = .error e →
        (Spec.buildGo w cf name root [] [] ab r).world.recs = w.recs ∧
        (Impl.buildGo kw cf name vs root [] [] ab old).world.recs = kw.recs) ∧
     (∀ v, (Spec.buildGo w cf name root [] [] ab r).res = .ok v →
        NewRecs w.dirSize name vs root w (Spec.buildGo w cf name root [] [] ab r).world
          kw (Impl.buildGo kw cf name vs root [] [] ab old).world)) := by
  have hstart : ∀ cds, SpecSt.Sim (Spec.buildStart w cf [] [] r cds)
      (Impl.buildStart kw cf vs [] [] old cds).sp := by
    intro cds
    exact ⟨sim_mkdirs cds (sim_preClean' hfs cf r old hrs), rfl, hds, rfl, rfl, rfl, rfl, rfl, rfl, rfl⟩
  have hrb : ∀ ds, FS.Sim (mkdirs w.fs ds) (mkdirs kw.fs ds) := fun ds => sim_mkdirs ds hfs
  have hcr : r.createdDirs = old.createdDirs := hrs.created
  unfold Spec.buildGo Impl.buildGo
  simp only
  have hdm : dirsToMake (visible (Spec.buildStart w cf [] [] r [])) cf [] cf.dropLast =
      dirsToMake (visible (Impl.buildStart kw cf vs [] [] old []).sp) cf [] cf.dropLast :=
    sim_dirsToMake (sim_visible (hstart [])) _ _ _
  rw [hdm, hcr]
  generalize (if ab = 1 then (Except.error OSErr.other : Except OSErr (List Path))
    else dirsToMake (visible (Impl.buildStart kw cf vs [] [] old []).sp) cf [] cf.dropLast) = sc
  cases sc with
  | error e => exact ⟨rfl, hrb _, hds, hser, fun _ _ => ⟨rfl, rfl⟩, fun v hv => nomatch hv⟩
  | ok cds =>
    simp only
    have hwf0 : (Impl.buildStart kw cf vs [] [] old cds).WF := by intro p hp; cases hp
    have hpc0 : PendClaimed (Spec.buildStart w cf [] [] r cds) := by intro q _; rfl
    have hpcK : PendClaimed (Impl.buildStart kw cf vs [] [] old cds).sp := by intro q _; rfl
    have hrun := run_refines (ds := w.dirSize) root none (Spec.buildStart w cf [] [] r cds)
      (Impl.buildStart kw cf vs [] [] old cds) (hstart cds) rfl rfl rfl hwf0 hpc0 (by intro p; rfl)
      (fun p hp => nomatch hp) hok
    obtain ⟨ww, hfol, _⟩ := run_follows (ds := w.dirSize) root none (Impl.buildStart kw cf vs [] [] old cds)
      hds.symm rfl rfl hwf0 hpcK (fun p hp => nomatch hp) hok
    have hout := run_outputs_eq root none (Impl.buildStart kw cf vs [] [] old cds)
    generalize hrs' : run root none (Spec.buildStart w cf [] [] r cds) = rs at hrun
    obtain ⟨r0, s2, tr⟩ := rs
    generalize hrk : Impl.run root none (Impl.buildStart kw cf vs [] [] old cds) = rk at hrun hfol hout
    obtain ⟨r0', k2, ops⟩ := rk
    simp only at hrun hfol hout ⊢
    obtain ⟨hreq, hrel⟩ := hrun
    subst hreq
    have hcommit : ∀ (w' : World) (kw' : KWorld),
        w'.recs = (w.nextSerial, newSpecRec name s2.outputs.reverse (dedup (s2.createdDirs.reverse ++ cds))) :: w.recs →
        kw'.recs = (kw.nextSerial, newRec name ops (dedup (k2.sp.createdDirs.reverse ++ cds)) vs) :: kw.recs →
        NewRecs w.dirSize name vs root w w' kw kw' := by
      intro w' kw' h1 h2
      refine ⟨_, ops, dedup (k2.sp.createdDirs.reverse ++ cds), r0, ww, h1, h2, ⟨rfl, ?_, ?_⟩, hfol⟩
      · show dedup (s2.createdDirs.reverse ++ cds) = dedup (k2.sp.createdDirs.reverse ++ cds)
        rw [hrel.sim.createdDirs]
      · intro q
        show q ∈ s2.outputs.reverse ↔ q ∈ dedup (CacheRec.outputs _)
        rw [mem_dedup, CacheRec.outputs_eq, List.mem_reverse, hrel.sim.outputs, hout.1]
        show q ∈ (outsL ops).reverse ++ [] ↔ q ∈ outsL (ops.filter Impl.isComplexRegistered)
        rw [List.append_nil, List.mem_reverse, outsL, outsL, registeredL_filter_complex _ hout.2]
    cases r0 with
    | error e => exact ⟨rfl, hrb _, hds, hser, fun _ _ => ⟨rfl, rfl⟩, fun v hv => nomatch hv⟩
    | ok v =>
      by_cases h2 : ab = 2
      · simp only [h2, if_true]
        exact ⟨trivial, hrb _, hds, hser, fun _ _ => by constructor <;> first | rfl | trivial, fun v hv => nomatch hv⟩
      · simp only [h2, if_false]
        refine ⟨trivial, ?_, hds, by rw [hser], (fun e he => nomatch he), fun v' _ => hcommit _ _ rfl rfl⟩
        simp only [FS.write]
        rw [hser]
        exact hrel.sim.fs.set cf _ _ (by simp [Entry.sim])

/-- **C01 for one build.**  `old` is the content of the valid cache file (or the empty record). -/
theorem buildGo_refines (w : World) (kw : KWorld) (cf : Path) (name : String) (vs : List (String × Json))
    (root : Prog) (ab : Nat) (old : CacheRec)
    (hfs : FS.Sim w.fs kw.fs) (hds : w.dirSize = kw.dirSize) (hser : w.nextSerial = kw.nextSerial)
    (hok : CacheOK w.dirSize old vs root) :
    (Spec.buildGo w cf name root [] [] ab old.toRec).res = (Impl.buildGo kw cf name vs root [] [] ab old).res ∧
    FS.Sim (Spec.buildGo w cf name root [] [] ab old.toRec).world.fs
           (Impl.buildGo kw cf name vs root [] [] ab old).world.fs :=
  have h := buildGo_step w kw cf name vs root ab old.toRec old hfs hds hser ⟨rfl, rfl, fun _ => Iff.rfl⟩ hok
  ⟨h.1, h.2.1⟩

/-- what the two worlds have to agree on before a build -/
structure WorldSim (w : World) (kw : KWorld) : Prop where
  fs : FS.Sim w.fs kw.fs
  dirSize : w.dirSize = kw.dirSize
  nextSerial : w.nextSerial = kw.nextSerial

theorem CacheOK.empty (ds : Nat) (name : String) (vs vs' : List (String × Json)) (prog : Prog) :
    CacheOK ds { buildName := name, versions := vs' } vs prog := by
  constructor
  · intro path cmp fname args kwargs body k _ p' rcmp rargs rkwargs subs ret cmpRes sf content hget
    simp [CacheRec.getFile, registeredL] at hget
  · intro fname args kwargs body k _ f a kk subs ret sf hget
    simp [CacheRec.getSub, registeredL] at hget

/-- C01, first build (no cache file): unconditionally, for every program and tree, the cache logic and
    the from-scratch semantics agree on the result and on the tree. -/
theorem first_build_refines (w : World) (kw : KWorld) (cf : Path) (name : String) (vs : List (String × Json))
    (root : Prog) (ab : Nat) (h : WorldSim w kw) :
    (Spec.buildGo w cf name root [] [] ab { buildName := name, outputs := [], createdDirs := [] }).res =
      (Impl.buildGo kw cf name vs root [] [] ab { buildName := name, versions := vs }).res ∧
    FS.Sim (Spec.buildGo w cf name root [] [] ab { buildName := name, outputs := [], createdDirs := [] }).world.fs
      (Impl.buildGo kw cf name vs root [] [] ab { buildName := name, versions := vs }).world.fs :=
  buildGo_refines w kw cf name vs root ab { buildName := name, versions := vs } h.fs h.dirSize h.nextSerial
    (CacheOK.empty _ _ _ _ _)

end FB

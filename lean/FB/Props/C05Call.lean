/-
  One call of `build_file` or `subbuild` inside `Impl.run`: the records an executed call leaves and the equations of
  `Impl.run` in a first run (empty cache: every look-up misses), what the set-up and `bfFinish` do to the tree, what a
  first run keeps, and how two runs at corresponding points (`Same`) stay in step across a call.
-/
import FB.Props.C05Complete
import FB.Lemmas.ImplRun
namespace FB
open FS Spec Impl

/-- the two runs are at corresponding points: tree, cache-file name, directory size, claims and calls in progress are
    equal, and neither state holds an injected fault (the runs compared are fault-free; a fault would be consumed by one
    run and not the other) -/
structure Same (s s' : KSt) : Prop where
  fs : s'.sp.fs = s.sp.fs
  cacheFile : s'.sp.cacheFile = s.sp.cacheFile
  dirSize : s'.sp.dirSize = s.sp.dirSize
  claimedFiles : s'.sp.claimedFiles = s.sp.claimedFiles
  claimedSubs : s'.sp.claimedSubs = s.sp.claimedSubs
  inProg : s'.sp.inProg = s.sp.inProg
  ff : s.sp.failFiles = []
  ff' : s'.sp.failFiles = []
  fsb : s.sp.failSubs = []
  fsb' : s'.sp.failSubs = []

theorem Same.visible {s s' : KSt} (h : Same s s') : visible s'.sp = visible s.sp := by
  unfold Spec.visible; rw [h.fs, h.inProg, h.cacheFile]

/-- the part of the state `Same` speaks of -/
def SpecSt.seen (sp : SpecSt) :=
  (sp.fs, sp.cacheFile, sp.dirSize, sp.claimedFiles, sp.claimedSubs, sp.inProg, sp.failFiles, sp.failSubs)

theorem Same.of_seen {a b a' b' : KSt} (h : Same a b) (ea : a'.sp.seen = a.sp.seen) (eb : b'.sp.seen = b.sp.seen) :
    Same a' b' := by
  simp only [SpecSt.seen, Prod.mk.injEq] at ea eb
  obtain ⟨a1, a2, a3, a4, a5, a6, a7, a8⟩ := ea
  obtain ⟨b1, b2, b3, b4, b5, b6, b7, b8⟩ := eb
  exact ⟨by rw [b1, a1]; exact h.fs, by rw [b2, a2]; exact h.cacheFile, by rw [b3, a3]; exact h.dirSize,
    by rw [b4, a4]; exact h.claimedFiles, by rw [b5, a5]; exact h.claimedSubs, by rw [b6, a6]; exact h.inProg,
    by rw [a7]; exact h.ff, by rw [b7]; exact h.ff', by rw [a8]; exact h.fsb, by rw [b8]; exact h.fsb'⟩

theorem Same.subClaim {s s' : KSt} (h : Same s s') (key : H) : Same (Impl.subClaim s key) (Impl.subClaim s' key) :=
  ⟨h.fs, h.cacheFile, h.dirSize, h.claimedFiles,
    by show key :: s'.sp.claimedSubs = key :: s.sp.claimedSubs; rw [h.claimedSubs],
    h.inProg, h.ff, h.ff', h.fsb, h.fsb'⟩

/-- `Same` does not look at the shelf, the invocation log, the pending writes or the clock: the steps that change
    only those keep it -/
theorem Same.missStart_left {a b : KSt} (h : Same a b) (p : Path) (i : Inv) : Same (Impl.missStart a p i) b := h.of_seen rfl rfl

theorem Same.missStart {a b : KSt} (h : Same a b) (p : Path) (i : Inv) : Same (Impl.missStart a p i) (Impl.missStart b p i) :=
  h.of_seen rfl rfl

theorem Same.subStart_left {a b : KSt} (h : Same a b) (i : Inv) : Same (Impl.subStart a i) b := h.of_seen rfl rfl

theorem Same.subStart {a b : KSt} (h : Same a b) (i : Inv) : Same (Impl.subStart a i) (Impl.subStart b i) := h.of_seen rfl rfl

theorem Same.setPC_left {a b : KSt} (h : Same a b) (pend : List (Path × String × Nat)) (clk : Nat) : Same (setPC a pend clk) b :=
  h.of_seen rfl rfl

theorem Same.setPC {a b : KSt} (h : Same a b) (pa pb : List (Path × String × Nat)) (ca cb : Nat) :
    Same (FB.setPC a pa ca) (FB.setPC b pb cb) := h.of_seen rfl rfl

theorem versionOk_congr {a b : KSt} (h1 : a.old = b.old) (h2 : a.newVersions = b.newVersions) (f : String) :
    versionOk a f = versionOk b f := by
  unfold versionOk; rw [h1, h2]

theorem getFile_empty (old : CacheRec) (h : old.roots = []) (p : Path) : old.getFile p = none := by
  simp [CacheRec.getFile, h, registeredL]

theorem getSub_empty (old : CacheRec) (h : old.roots = []) (k : H) : old.getSub k = none := by
  simp [CacheRec.getSub, h, registeredL]

theorem lookupFile_empty (s : KSt) (h : s.old.roots = []) (path : Path) (cmp : Cmp) (fname : String) (args kwargs : Json)
    (made : List Path) : lookupFile s path cmp fname args kwargs made = none := by
  unfold lookupFile; rw [getFile_empty _ h]

theorem lookupSub_empty (s : KSt) (h : s.old.roots = []) (fname : String) (args kwargs : Json) :
    lookupSub s fname args kwargs = none := by
  unfold lookupSub; rw [getSub_empty _ h]

/-- with an empty cache every look-up misses: a call that gets past its set-up runs its function -/
theorem run_bf_first (s : KSt) (t : Option Path) (path : Path) (cmp : Cmp) (fname : String) (args kwargs : Json)
    (body : Prog) (k : CallRes → Prog) (sp1 : SpecSt) (made : List Path) (h0 : s.old.roots = [])
    (hsetup : bfSetup s.sp path = .ok (sp1, made)) :
    Impl.run (.buildFile path cmp fname args kwargs body k) t s =
      (let out := Impl.run body (some path) (missStart (afterSetup s sp1 path made) path ⟨fname, some path, args, kwargs⟩)
       let fin := bfFinish out.2.1.sp path made out.1
       let s3 := withSp out.2.1 fin.2
       let rest := Impl.run (k fin.1) t s3
       (rest.1, rest.2.1, execFileOp path cmp fname args kwargs out.2.2 out.1 fin.1 s3 :: rest.2.2)) :=
  run_buildFile_miss hsetup (lookupFile_empty (afterSetup s sp1 path made) h0 path cmp fname args kwargs made)

theorem run_sb_first (s : KSt) (t : Option Path) (fname : String) (args kwargs : Json) (body : Prog) (k : CallRes → Prog)
    (h0 : s.old.roots = []) (h2 : s.sp.failSubs = [])
    (h1 : s.sp.claimedSubs.any (heq (subKey fname args kwargs)) = false) :
    Impl.run (.subbuild fname args kwargs body k) t s =
      (let out := Impl.run body none (Impl.subStart (subClaim s (subKey fname args kwargs)) ⟨fname, none, args, kwargs⟩)
       let rest := Impl.run (k out.1) t out.2.1
       (rest.1, rest.2.1, execSubOp fname args kwargs out.2.2 out.1 :: rest.2.2)) :=
  run_subbuild_miss h1 (by simp [h2]) (lookupSub_empty (subClaim s (subKey fname args kwargs)) h0 fname args kwargs)

theorem run_ret (v : PyVal) (t : Option Path) (s : KSt) :
    Impl.run (.ret v) t s = (match sanitize v with | some j => .ok j | none => .error .typeErr, s, []) := by
  rw [Impl.run]; cases sanitize v <;> rfl

theorem recordOf_simple (ds : Nat) (f : FS) (q : Query) :
    ∃ v x, recordOf ds f q = .simple q v x (View.answer ds f q) := by
  unfold recordOf; split <;> exact ⟨_, _, rfl⟩

theorem run_write_some (b : String) (mt : Option Nat) (k : Prog) (p : Path) (s : KSt) :
    Impl.run (.write b mt k) (some p) s =
      Impl.run k (some p) (liftSp s fun sp => { sp with pending := (p, b, mt.getD sp.clock) :: sp.pending, clock := sp.clock + 1 }) := by
  simp only [Impl.run]

theorem run_write_none (b : String) (mt : Option Nat) (k : Prog) (s : KSt) :
    Impl.run (.write b mt k) none s = Impl.run k none s := by
  simp only [Impl.run]

theorem callRes_cases (r : CallRes) : (∃ j, r = .ok j) ∨ (∃ e, r = .error e) := by
  cases r with
  | ok j => exact Or.inl ⟨j, rfl⟩
  | error e => exact Or.inr ⟨e, rfl⟩

theorem bfSetup_ok_made (sp sp1 : SpecSt) (path : Path) (made : List Path) (h : bfSetup sp path = .ok (sp1, made)) :
    path ≠ [] ∧ (∀ d ∈ made, d <+: path) ∧ path ∉ made ∧ made.any Path.tooLong = false := by
  obtain ⟨_, hnc, hncf, hnd, hdm, hnf⟩ := bfSetup_ok_fields sp sp1 path made h
  have hne : path ≠ [] := by intro e; subst e; simp [FS.isDir, get_nil] at hnd
  have hpre : ∀ d ∈ made, d <+: path.dropLast := fun d hd => (dirsToMake_mem hdm hd).1
  refine ⟨hne, fun d hd => (hpre d hd).trans (List.dropLast_prefix path), ?_, ?_⟩
  · intro hm
    have := (hpre path hm).length_le
    rw [List.length_dropLast] at this
    have : path.length ≠ 0 := by simpa using hne
    omega
  · unfold bfSetup at h
    simp only [show sp.claimedFiles.contains path = false from by simpa using hnc, hncf, hnd, hdm, Bool.false_eq_true,
      if_false, show sp.failFiles.contains path = false from by simpa using hnf] at h
    by_cases hl : made.any Path.tooLong = true
    · simp [hl] at h
    · simpa using hl

theorem bfSetup_same {s s' : KSt} (h : Same s s') (path : Path) (sp1 : SpecSt) (made : List Path)
    (hs : bfSetup s.sp path = .ok (sp1, made)) : bfSetup s'.sp path = .ok (setupState s'.sp path made, made) := by
  obtain ⟨_, h1, h2, h3, h4, _⟩ := bfSetup_ok_fields s.sp sp1 path made hs
  obtain ⟨_, _, _, c6⟩ := bfSetup_ok_made s.sp sp1 path made hs
  unfold bfSetup
  have c1 : s'.sp.claimedFiles.contains path = false := by rw [h.claimedFiles]; simpa using h1
  have c2 : ¬ path = s'.sp.cacheFile := by rw [h.cacheFile]; exact h2
  have c3 : s'.sp.fs.isDir path = false := by rw [h.fs]; exact h3
  have c4 : dirsToMake (visible s'.sp) s'.sp.cacheFile s'.sp.inProg path.dropLast = .ok made := by
    rw [h.visible, h.cacheFile, h.inProg]; exact h4
  have c5 : s'.sp.failFiles.contains path = false := by simp [h.ff']
  simp only [c1, c2, c3, c4, c5, c6, Bool.false_eq_true, if_false]

theorem bfSetup_same_err {s s' : KSt} (h : Same s s') (path : Path) (e : Exc) (hs : bfSetup s.sp path = .error e) :
    bfSetup s'.sp path = .error e := by
  unfold bfSetup at hs ⊢
  rw [h.claimedFiles, h.cacheFile, h.fs, h.visible, h.inProg, h.ff']
  rw [h.ff] at hs
  by_cases c1 : s.sp.claimedFiles.contains path = true
  · simp only [c1, if_true] at hs ⊢; exact hs
  · simp only [c1, Bool.false_eq_true, if_false] at hs ⊢
    by_cases c2 : path = s.sp.cacheFile
    · simp only [c2, if_true] at hs ⊢; exact hs
    · simp only [c2, if_false] at hs ⊢
      by_cases c3 : s.sp.fs.isDir path = true
      · simp only [c3, if_true] at hs ⊢; exact hs
      · simp only [c3, Bool.false_eq_true, if_false] at hs ⊢
        cases hd : dirsToMake (visible s.sp) s.sp.cacheFile s.sp.inProg path.dropLast with
        | error e' => simp only [hd] at hs ⊢; exact hs
        | ok ds =>
          simp only [hd, List.contains_nil, Bool.false_eq_true, if_false] at hs ⊢
          by_cases c4 : ds.any Path.tooLong = true
          · simp only [c4, if_true] at hs ⊢; exact hs
          · simp only [c4, Bool.false_eq_true, if_false] at hs; cases hs

theorem setupState_fs (a b : SpecSt) (path : Path) (made : List Path) (h : a.fs = b.fs) :
    (setupState a path made).fs = (setupState b path made).fs := by
  unfold setupState; simp only [h]

theorem setupState_file_other (sp : SpecSt) (path : Path) (made : List Path) (p : Path) (b : String) (m : Nat)
    (hp : p ≠ path) (h : sp.fs.get p = some (.file b m)) : (setupState sp path made).fs.get p = some (.file b m) := by
  unfold setupState
  simp only
  have h1 := mkdirs_file made sp.fs p b m h
  split
  · rw [get_erase_ne _ _ _ hp]; exact h1
  · exact h1

theorem setupState_absent (sp : SpecSt) (path : Path) (made : List Path) (q : Path)
    (hq : q ≠ path) (hm : q ∉ made) (h : sp.fs.get q = none) : (setupState sp path made).fs.get q = none := by
  unfold setupState
  simp only
  have h1 : (mkdirs sp.fs made).get q = none := by
    rcases Rollback.mkdirs_get_mem made sp.fs q with h' | ⟨hmem, _, _⟩
    · rw [h', h]
    · exact absurd hmem hm
  split
  · rw [get_erase_ne _ _ _ hq]; exact h1
  · exact h1

theorem setupState_fs_absent (sp : SpecSt) (path : Path) (made : List Path) (hm : path ∉ made) (h : sp.fs.get path = none) :
    (mkdirs sp.fs made).get path = none ∧ (setupState sp path made).fs = mkdirs sp.fs made := by
  have h1 : (mkdirs sp.fs made).get path = none := by
    rcases Rollback.mkdirs_get_mem made sp.fs path with h' | ⟨hmem, _, _⟩
    · rw [h', h]
    · exact absurd hmem hm
  refine ⟨h1, ?_⟩
  unfold setupState
  simp [FS.isFile, h1]

theorem Same.setup {s s' : KSt} (h : Same s s') (path : Path) (made : List Path) :
    Same (afterSetup s (setupState s.sp path made) path made) (afterSetup s' (setupState s'.sp path made) path made) :=
  ⟨setupState_fs _ _ path made h.fs, h.cacheFile, h.dirSize,
    by show path :: s'.sp.claimedFiles = path :: s.sp.claimedFiles; rw [h.claimedFiles],
    h.claimedSubs, by show path :: s'.sp.inProg = path :: s.sp.inProg; rw [h.inProg], h.ff, h.ff', h.fsb, h.fsb'⟩

/-- removing other entries does not change what is bound at `q` -/
theorem get_filter_keep (fs : FS) (f : Path × Entry → Bool) (q : Path) (h : ∀ e, f (q, e) = true) :
    FS.get (List.filter f fs) q = FS.get fs q := by
  by_cases hq : q = []
  · subst hq; simp [get_nil]
  induction fs with
  | nil => rfl
  | cons x r ih =>
    obtain ⟨p, e⟩ := x
    by_cases hp : p = q
    · subst hp
      simp [List.filter, h e, FS.get, hq]
    · by_cases hf : f (p, e) = true
      · simp only [List.filter, hf, FS.get, hq, if_false, hp]
        exact ih
      · simp only [List.filter, hf, FS.get, hq, if_false, hp]
        exact ih

theorem clearWay_get (shelf : FS) (path : Path) (made : List Path) (q : Path)
    (h1 : properAncestor path q = false) (h2 : made.contains q = false) : (clearWay shelf path made).get q = shelf.get q := by
  unfold clearWay
  apply get_filter_keep
  intro e
  have h2' : q ∉ made := by simpa using h2
  simp [h1, h2']

/-- the set-up moves aside only leftovers below the target or at a directory it makes -/
theorem afterSetup_shelf (s : KSt) (sp1 : SpecSt) (path : Path) (made : List Path) (hmade : ∀ d ∈ made, d <+: path)
    (q : Path) (h1 : ¬ path <+: q ∨ q = path) (h2 : ¬ q <+: path ∨ q = path) (hpm : path ∉ made) :
    (afterSetup s sp1 path made).shelf.get q = s.shelf.get q := by
  show (clearWay s.shelf path made).get q = _
  apply clearWay_get
  · rcases h1 with h1 | h1 <;> simp [properAncestor, h1]
  · rcases h2 with h2 | h2
    · simpa using fun hm => h2 (hmade q hm)
    · rw [h2]; simpa using hpm

theorem bfFinish_ok_inv (sp : SpecSt) (path : Path) (made : List Path) (rb : CallRes) (j : Json)
    (h : (bfFinish sp path made rb).1 = .ok j) :
    ∃ c m, pendingFind sp.pending path = some (c, m) ∧ rb = .ok j ∧ (bfFinish sp path made rb).2 = finOk sp path made c m := by
  cases rb with
  | error e => simp [bfFinish] at h
  | ok j' =>
    cases hw : pendingFind sp.pending path with
    | none => simp [bfFinish, hw] at h
    | some x =>
      obtain ⟨c, m⟩ := x
      have := bfFinish_ok sp path made j' c m hw
      rw [this] at h ⊢
      simp only [Except.ok.injEq] at h
      subst h
      exact ⟨c, m, rfl, rfl, rfl⟩

theorem bfFinish_error_state (sp : SpecSt) (path : Path) (made : List Path) (r : CallRes) (e : Exc)
    (h : (bfFinish sp path made r).1 = .error e) : (bfFinish sp path made r).2 = failSt sp path made := by
  cases r with
  | error e' => rw [bfFinish_error]
  | ok j =>
    cases hw : pendingFind sp.pending path with
    | none => rw [bfFinish_notCreated sp path made j hw]
    | some x => obtain ⟨c, m⟩ := x; rw [bfFinish_ok sp path made j c m hw] at h; cases h

/-- a `build_file` that fails after its function ran fails alike wherever nothing is pending for the target when
    nothing is here (a function that returned fails only for not having written) -/
theorem bfFinish_fail_both (sp sp' : SpecSt) (path : Path) (made : List Path) (r : CallRes) (e : Exc)
    (h : (bfFinish sp path made r).1 = .error e)
    (hw : pendingFind sp.pending path = none → pendingFind sp'.pending path = none) :
    (bfFinish sp' path made r).1 = .error e := by
  cases r with
  | error e' => simp only [bfFinish] at h ⊢; exact h
  | ok j =>
    have hnone : pendingFind sp.pending path = none := by
      cases hw' : pendingFind sp.pending path with
      | none => rfl
      | some x => obtain ⟨c, m⟩ := x; rw [bfFinish_ok sp path made j c m hw'] at h; cases h
    simp only [bfFinish, hnone, hw hnone] at h ⊢
    exact h

theorem bfFinish_file_other (sp : SpecSt) (path : Path) (made : List Path) (r : CallRes) (p : Path) (b : String) (m : Nat)
    (hp : p ≠ path) (h : sp.fs.get p = some (.file b m)) : (bfFinish sp path made r).2.fs.get p = some (.file b m) := by
  unfold bfFinish
  cases r with
  | error e => exact rmEmpty_file _ _ p b m h
  | ok j =>
    simp only
    split
    · simp only; rw [get_set_ne _ _ _ _ hp]; exact h
    · exact rmEmpty_file _ _ p b m h

theorem bfFinish_absent (sp : SpecSt) (path : Path) (made : List Path) (r : CallRes) (q : Path)
    (hq : q ≠ path) (h : sp.fs.get q = none) : (bfFinish sp path made r).2.fs.get q = none := by
  unfold bfFinish
  cases r with
  | error e => exact rmEmpty_none _ _ q h
  | ok j =>
    simp only
    split
    · simp only; rw [get_set_ne _ _ _ _ hq]; exact h
    · exact rmEmpty_none _ _ q h

theorem execFileOp_ok (path : Path) (cmp : Cmp) (fname : String) (args kwargs : Json) (subs : List Op) (rb : CallRes)
    (st : KSt) (made : List Path) (j : Json) (c : String) (m : Nat) (hne : path ≠ []) :
    execFileOp path cmp fname args kwargs subs rb (.ok j) (withSp st (finOk st.sp path made c m)) =
      .buildFile path cmp fname args kwargs subs j (View.cmpResult cmp c m) false false c := by
  have hg : (withSp st (finOk st.sp path made c m)).sp.fs.get path = some (.file c m) := get_set_self _ _ _ hne
  simp only [execFileOp, cmpBuilt, hg]

theorem execFileOp_error (path : Path) (cmp : Cmp) (fname : String) (args kwargs : Json) (subs : List Op) (rb : CallRes)
    (e : Exc) (s3 : KSt) :
    ∃ kept, execFileOp path cmp fname args kwargs subs rb (.error e) s3 =
      .buildFile path cmp fname args kwargs subs kept .null true false "" := ⟨_, rfl⟩

theorem Same.adopt {a b : KSt} (h : Same a b) (path : Path) (made : List Path) (c : String) (m : Nat) (hne : path ≠ [])
    (hshelf : b.shelf.get path = some (.file c m)) : Same (withSp a (finOk a.sp path made c m)) (Impl.adopt b path made) := by
  refine ⟨?_, h.cacheFile, h.dirSize, h.claimedFiles, h.claimedSubs, ?_, h.ff, h.ff', h.fsb, h.fsb'⟩
  · show (Impl.adopt b path made).sp.fs = a.sp.fs.set path (.file c m)
    simp only [Impl.adopt, hshelf, hne, if_false]
    rw [h.fs]
  · show b.sp.inProg.erase path = a.sp.inProg.erase path
    rw [h.inProg]

theorem Same.failed {a b : KSt} (h : Same a b) (path : Path) (made : List Path) :
    Same (withSp a (failSt a.sp path made)) (withSp b (failSt b.sp path made)) :=
  ⟨by show rmEmpty b.sp.fs made = rmEmpty a.sp.fs made; rw [h.fs], h.cacheFile, h.dirSize, h.claimedFiles, h.claimedSubs,
    by show b.sp.inProg.erase path = a.sp.inProg.erase path; rw [h.inProg], h.ff, h.ff', h.fsb, h.fsb'⟩

theorem lookupFile_hit' (st st2 : KSt) (path : Path) (cmp : Cmp) (fname : String) (args kwargs : Json) (made : List Path)
    (subs : List Op) (ret cmpRes : Json) (content : String) (b : String) (m : Nat) (b2 : String) (m2 : Nat)
    (hold : st.old.getFile path = some (.buildFile path cmp fname args kwargs subs ret cmpRes false false content))
    (hver : versionOk st fname = true) (ha : isEqual args args = true) (hk : isEqual kwargs kwargs = true)
    (hne : path ≠ []) (hshelf : st.shelf.get path = some (.file b m))
    (hcr : isEqual cmpRes (View.cmpResult cmp b m) = true) (hrep : replayOps subs st = some st2)
    (hshelf2 : st2.shelf.get path = some (.file b2 m2)) :
    lookupFile st path cmp fname args kwargs made =
      some (.buildFile path cmp fname args kwargs subs ret (View.cmpResult cmp b2 m2) false false content, adopt st2 path made) := by
  unfold lookupFile
  rw [hold]
  have hcs : cmpShelf st path cmp = View.cmpResult cmp b m := by simp [cmpShelf, hshelf, hne]
  have hcs2 : cmpShelf st2 path cmp = View.cmpResult cmp b2 m2 := by simp [cmpShelf, hshelf2, hne]
  simp only [hver, ha, hk, outputMatches, hcs, hcr, decide_true, Bool.and_self, if_true, hrep, hcs2]
  have := cmpResult_ne_null cmp b2 m2
  cases hc : View.cmpResult cmp b2 m2 <;> first | exact absurd hc this | rfl

theorem lookupFile_hit (st : KSt) (path : Path) (cmp : Cmp) (fname : String) (args kwargs : Json) (made : List Path)
    (subs : List Op) (ret cmpRes : Json) (content : String) (b : String) (m : Nat)
    (hold : st.old.getFile path = some (.buildFile path cmp fname args kwargs subs ret cmpRes false false content))
    (hver : versionOk st fname = true) (ha : isEqual args args = true) (hk : isEqual kwargs kwargs = true)
    (hne : path ≠ []) (hshelf : st.shelf.get path = some (.file b m))
    (hcr : isEqual cmpRes (View.cmpResult cmp b m) = true) (hrep : replayOps subs st = some st) :
    lookupFile st path cmp fname args kwargs made =
      some (.buildFile path cmp fname args kwargs subs ret (View.cmpResult cmp b m) false false content, adopt st path made) :=
  lookupFile_hit' st st path cmp fname args kwargs made subs ret cmpRes content b m b m hold hver ha hk hne hshelf hcr hrep hshelf

theorem lookupSub_hit (st st2 : KSt) (fname : String) (args kwargs : Json) (subs : List Op) (ret : Json)
    (hold : st.old.getSub (subKey fname args kwargs) = some (.subbuild fname args kwargs subs ret false false))
    (hver : versionOk st fname = true) (hrep : replayOps subs st = some st2) :
    lookupSub st fname args kwargs = some (.subbuild fname args kwargs subs ret false false, st2) := by
  unfold lookupSub
  rw [hold]
  simp only [hver, if_true, hrep]

/-- failures are never served: the record of a call that raised makes the look-up miss -/
theorem lookupFile_raised (st : KSt) (path : Path) (cmp : Cmp) (fname : String) (args kwargs : Json) (made : List Path)
    (c : Cmp) (f : String) (a k : Json) (subs : List Op) (r cr : Json) (sf : Bool) (ct : String)
    (hold : st.old.getFile path = some (.buildFile path c f a k subs r cr true sf ct)) :
    lookupFile st path cmp fname args kwargs made = none := by
  unfold lookupFile; rw [hold]

theorem lookupSub_raised (st : KSt) (fname : String) (args kwargs : Json) (f : String) (a k : Json) (subs : List Op) (r : Json) (sf : Bool)
    (hold : st.old.getSub (subKey fname args kwargs) = some (.subbuild f a k subs r true sf)) :
    lookupSub st fname args kwargs = none := by
  unfold lookupSub; rw [hold]

/-- what the original (first) run keeps: the old record (so an empty cache stays empty), no faults appear, claims
    only grow, and a file at a claimed path is never touched again -/
structure FirstKeeps (s s' : KSt) : Prop where
  old : s'.old = s.old
  ff : s'.sp.failFiles = []
  fsb : s'.sp.failSubs = []
  claimed : ∀ p ∈ s.sp.claimedFiles, p ∈ s'.sp.claimedFiles
  files : ∀ p b m, s.sp.fs.get p = some (.file b m) → p ∈ s.sp.claimedFiles → s'.sp.fs.get p = some (.file b m)

theorem FirstKeeps.refl (s : KSt) (h1 : s.sp.failFiles = []) (h2 : s.sp.failSubs = []) : FirstKeeps s s :=
  ⟨rfl, h1, h2, fun _ h => h, fun _ _ _ h _ => h⟩

theorem FirstKeeps.trans {a b c : KSt} (h1 : FirstKeeps a b) (h2 : FirstKeeps b c) : FirstKeeps a c :=
  ⟨h2.old.trans h1.old, h2.ff, h2.fsb, fun p hp => h2.claimed p (h1.claimed p hp),
   fun p b m hg hc => h2.files p b m (h1.files p b m hg hc) (h1.claimed p hc)⟩

theorem setupFailState_failFiles (sp : SpecSt) (path : Path) (e : Exc) (h : sp.failFiles = []) :
    (setupFailState sp path e).failFiles = [] := by
  simp only [setupFailState, h]; split <;> simp

theorem FirstKeeps.clean_after {s1 s2 : KSt} (h : FirstKeeps s1 s2) (h0 : s1.old.roots = []) (path : Path) (made : List Path)
    (r : CallRes) :
    (withSp s2 (bfFinish s2.sp path made r).2).old.roots = [] ∧ (withSp s2 (bfFinish s2.sp path made r).2).sp.failFiles = [] ∧
    (withSp s2 (bfFinish s2.sp path made r).2).sp.failSubs = [] := by
  obtain ⟨_, hk2, hk3⟩ := bfFinish_keeps s2.sp path made r
  exact ⟨by show s2.old.roots = []; rw [h.old]; exact h0, hk2.trans h.ff, hk3.trans h.fsb⟩

/-- `bfFinish` touches no file but the target: a state in which the target is absent keeps all its files -/
theorem FirstKeeps.of_finish (s2 : KSt) (path : Path) (made : List Path) (r : CallRes) (hp : s2.sp.fs.get path = none)
    (h1 : (withSp s2 (bfFinish s2.sp path made r).2).sp.failFiles = [])
    (h2 : (withSp s2 (bfFinish s2.sp path made r).2).sp.failSubs = []) :
    FirstKeeps s2 (withSp s2 (bfFinish s2.sp path made r).2) :=
  ⟨rfl, h1, h2, fun p hc => by show p ∈ (bfFinish _ path made r).2.claimedFiles; rw [bfFinish_claimed]; exact hc,
    fun p b m hg _ => bfFinish_file_other _ _ _ _ _ _ _ (fun e => by rw [e, hp] at hg; cases hg) hg⟩

/-- **what any first run keeps** (arbitrary nesting) -/
theorem run_keeps (prog : Prog) : ∀ (t : Option Path) (s : KSt), s.old.roots = [] → s.sp.failFiles = [] →
    s.sp.failSubs = [] → FirstKeeps s (Impl.run prog t s).2.1 := by
  induction prog with
  | ret v => intro t s _ h1 h2; simp only [Impl.run]; split <;> exact FirstKeeps.refl s h1 h2
  | raise e => intro t s _ h1 h2; simp only [Impl.run]; exact FirstKeeps.refl s h1 h2
  | query q k ih => intro t s h0 h1 h2; simp only [Impl.run]; exact ih _ t s h0 h1 h2
  | write b mt k ih =>
    intro t s h0 h1 h2
    simp only [Impl.run]
    cases t with
    | none => exact ih none s h0 h1 h2
    | some p =>
      have := ih (some p) (liftSp s fun sp => { sp with pending := (p, b, mt.getD sp.clock) :: sp.pending, clock := sp.clock + 1 }) h0 h1 h2
      exact ⟨this.old, this.ff, this.fsb, this.claimed, this.files⟩
  | buildFile path cmp fname args kwargs body k ihb ihk =>
    intro t s h0 h1 h2
    cases hsetup : bfSetup s.sp path with
    | error e =>
      rw [run_buildFile_refused hsetup]
      have hk := ihk (.error e) t (liftSp s fun sp => Spec.setupFailState sp path e) h0 (setupFailState_failFiles _ _ _ h1) h2
      exact ⟨hk.old, hk.ff, hk.fsb, hk.claimed, hk.files⟩
    | ok x =>
      obtain ⟨sp1, made⟩ := x
      obtain ⟨rfl, hnc, _, _, _, _⟩ := bfSetup_ok_fields s.sp sp1 path made hsetup
      rw [run_bf_first s t path cmp fname args kwargs body k _ made h0 hsetup]
      have hb := ihb (some path) (missStart (afterSetup s (setupState s.sp path made) path made) path ⟨fname, some path, args, kwargs⟩) h0 h1 h2
      simp only
      generalize Impl.run body (some path) (missStart (afterSetup s (setupState s.sp path made) path made) path ⟨fname, some path, args, kwargs⟩) = out at hb
      obtain ⟨h30, h31, h32⟩ := hb.clean_after h0 path made out.1
      -- the call as a whole: the target is claimed now, and was not before
      have hs3 : FirstKeeps s (withSp out.2.1 (bfFinish out.2.1.sp path made out.1).2) := by
        refine ⟨hb.old, h31, h32, ?_, ?_⟩
        · intro p hp
          show p ∈ (bfFinish _ path made out.1).2.claimedFiles
          rw [bfFinish_claimed]
          exact hb.claimed p (List.mem_cons_of_mem _ hp)
        · intro p b m hg hc
          have hne : p ≠ path := fun e => hnc (e ▸ hc)
          exact bfFinish_file_other _ _ _ _ _ _ _ hne
            (hb.files p b m (setupState_file_other _ _ _ _ _ _ hne hg) (List.mem_cons_of_mem _ hc))
      exact hs3.trans (ihk _ t _ h30 h31 h32)
  | subbuild fname args kwargs body k ihb ihk =>
    intro t s h0 h1 h2
    by_cases hc : s.sp.claimedSubs.any (heq (subKey fname args kwargs)) = true
    · rw [run_subbuild_dup hc]
      exact ihk _ t s h0 h1 h2
    · rw [run_sb_first s t fname args kwargs body k h0 h2 (by simpa using hc)]
      have hb := ihb none (Impl.subStart (subClaim s (subKey fname args kwargs)) ⟨fname, none, args, kwargs⟩) h0 h1 h2
      simp only
      generalize Impl.run body none (Impl.subStart (subClaim s (subKey fname args kwargs)) ⟨fname, none, args, kwargs⟩) = out at hb
      have hs2 : FirstKeeps s out.2.1 := ⟨hb.old, hb.ff, hb.fsb, hb.claimed, hb.files⟩
      exact hs2.trans (ihk out.1 t out.2.1 (by rw [hs2.old]; exact h0) hs2.ff hs2.fsb)

theorem run_keeps_eq {prog : Prog} {t : Option Path} {s : KSt} {r : CallRes} {e : KSt} {ops : List Op}
    (h : Impl.run prog t s = (r, e, ops)) (h0 : s.old.roots = []) (h1 : s.sp.failFiles = []) (h2 : s.sp.failSubs = []) :
    FirstKeeps s e := by
  have := run_keeps prog t s h0 h1 h2
  rw [h] at this
  exact this

end FB

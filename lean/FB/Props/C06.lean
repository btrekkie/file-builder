/-
  C06 — versions.  A record is never reused when it contains an operation of a function whose version
  changed (as a JSON value; absent = null), however deep; JSON-equal versions pass the test.
-/
import FB.Lemmas.ReplayBasic
import FB.Props.C18
namespace FB
open FS Spec

mutual
/-- the function names of the complex operations in a record tree -/
def Op.mentions (f : String) : Op → Bool
  | .simple _ _ _ _ => false
  | .buildFile _ _ g _ _ subs _ _ _ _ _ => g == f || Op.mentionsL f subs
  | .subbuild g _ _ subs _ _ _ => g == f || Op.mentionsL f subs
def Op.mentionsL (f : String) : List Op → Bool
  | [] => false
  | o :: os => Op.mentions f o || Op.mentionsL f os
end

mutual
/-- C06: if the version of `f` changed, no record that mentions `f` anywhere in its tree replays. -/
theorem C06_changed_invalidates : (o : Op) → (s : KSt) → (f : String) → s.WF →
    Impl.versionOk s f = false → Op.mentions f o = true → Impl.replayOp o s = none
  | .simple _ _ _ _, _, _, _, _, hm => by simp [Op.mentions] at hm
  | .buildFile path cmp g args kwargs subs ret cmpRes raised sf content, s, f, hwf, hv, hm => by
    cases hr : Impl.replayOp (.buildFile path cmp g args kwargs subs ret cmpRes raised sf content) s with
    | none => rfl
    | some s' =>
      exfalso
      obtain ⟨hvg, _, _, _, _, _, made, s2, _, _, hs2, _⟩ := replayOp_buildFile_some _ _ _ _ _ _ _ _ _ _ _ _ _ hr
      simp only [Op.mentions, Bool.or_eq_true, beq_iff_eq] at hm
      rcases hm with rfl | hm
      · rw [hv] at hvg; cases hvg
      · have := C06_changed_invalidatesL subs (replayS1 s path made raised) f (replayS1_wf hwf path made raised) hv hm
        rw [this] at hs2; cases hs2
  | .subbuild g args kwargs subs ret raised sf, s, f, hwf, hv, hm => by
    cases hr : Impl.replayOp (.subbuild g args kwargs subs ret raised sf) s with
    | none => rfl
    | some s' =>
      exfalso
      obtain ⟨hvg, _, _, hs2⟩ := replayOp_subbuild_some _ _ _ _ _ _ _ _ _ hr
      simp only [Op.mentions, Bool.or_eq_true, beq_iff_eq] at hm
      rcases hm with rfl | hm
      · rw [hv] at hvg; cases hvg
      · have := C06_changed_invalidatesL subs (Impl.subClaim s (subKey g args kwargs)) f hwf hv hm
        rw [this] at hs2; cases hs2
theorem C06_changed_invalidatesL : (os : List Op) → (s : KSt) → (f : String) → s.WF →
    Impl.versionOk s f = false → Op.mentionsL f os = true → Impl.replayOps os s = none
  | [], _, _, _, _, hm => by simp [Op.mentionsL] at hm
  | o :: os, s, f, hwf, hv, hm => by
    simp only [Op.mentionsL, Bool.or_eq_true] at hm
    simp only [Impl.replayOps]
    cases hr : Impl.replayOp o s with
    | none => rfl
    | some sm =>
      simp only
      rcases hm with hm | hm
      · rw [C06_changed_invalidates o s f hwf hv hm] at hr; cases hr
      · have k := replayOp_keeps o s sm hwf hr
        exact C06_changed_invalidatesL os sm f (k.wf hwf) (by
          unfold Impl.versionOk at hv ⊢; rw [k.old, k.newVersions]; exact hv) hm
end

/-- C06: the top-level `subbuild` lookup also tests the version of the called function. -/
theorem C06_lookup_tests_version (s : KSt) (fname : String) (args kwargs : Json)
    (hv : Impl.versionOk s fname = false) : Impl.lookupSub s fname args kwargs = none := by
  unfold Impl.lookupSub
  split
  · simp [hv]
  · rfl

/-- C06: versions that are JSON-equal pass the test (the comparison is `is_equal`: key order is
    irrelevant, 1 = 1.0, True ≠ 1 — see C18), an absent version is `null`. -/
theorem C06_equal_versions_pass (s : KSt) (f : String)
    (h : isEqual (verOf s.old.versions f) (verOf s.newVersions f) = true) : Impl.versionOk s f = true := h

example : isEqual (verOf [("f", .num (.int 1))] "f") (verOf [("f", .num (.flt ⟨1, 0, false⟩))] "f") = true ∧
    isEqual (verOf [("f", .bool true)] "f") (verOf [("f", .num (.int 1))] "f") = false ∧
    isEqual (verOf [] "f") (verOf [("f", .null)] "f") = true := by decide

end FB

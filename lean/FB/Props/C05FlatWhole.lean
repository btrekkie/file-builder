/-
  C05 — two whole builds of a flat program (calls whose functions only query and write): the records of such a run
  hold queries only below the top level, so that its targets, keys and registered records are those of the top level,
  and the statements about arbitrary nesting apply.
-/
import FB.Props.C05WholeFail
namespace FB
open FS Spec Impl

theorem leaf_ops_simple {prog : Prog} (h : Leaf prog) : ∀ (t : Option Path) (s : KSt),
    ∀ o ∈ (Impl.run prog t s).2.2, o.isSimple = true := by
  induction h with
  | ret v => intro t s o ho; simp only [Impl.run] at ho; split at ho <;> cases ho
  | raise e => intro t s o ho; simp only [Impl.run] at ho; cases ho
  | query q k _ ih =>
    intro t s o ho
    simp only [Impl.run] at ho
    rcases List.mem_cons.mp ho with rfl | ho
    · cases View.recVal s.sp.dirSize (visible s.sp) q <;> rfl
    · exact ih _ t s o ho
  | write b mt k _ ih =>
    intro t s o ho
    cases t with
    | none => simp only [Impl.run] at ho; exact ih none s o ho
    | some p => simp only [Impl.run] at ho; exact ih (some p) _ o ho

theorem simple_ops (l : List Op) (h : l.all Op.isSimple = true) :
    okDeepL l = true ∧ targetsDeepL l = [] ∧ registeredL l = [] := by
  induction l with
  | nil => exact ⟨rfl, rfl, rfl⟩
  | cons o r ih =>
    rw [List.all_cons, Bool.and_eq_true] at h
    obtain ⟨i1, i2, i3⟩ := ih h.2
    cases o with
    | simple q rr e a =>
      rw [okDeepL_cons, targetsDeepL_cons, registeredL_cons, i1, i2, i3]
      exact ⟨rfl, rfl, rfl⟩
    | buildFile p c f a k subs rr cr raised sf ct => exact nomatch h.1
    | subbuild f a k subs rr raised sf => exact nomatch h.1

/-- the records of a flat run in which every call succeeded, seen as a forest: every call succeeded at every depth,
    the targets are the top-level outputs, the subbuild keys the top-level keys -/
theorem flat_ops (ops : List Op) (hshape : ∀ o ∈ ops, o.flatShape = true) (hok : ∀ o ∈ ops, opOk o = true) :
    okDeepL ops = true ∧ targetsDeepL ops = topOuts ops ∧ subKeysDeepL ops = topKeys ops := by
  induction ops with
  | nil => exact ⟨rfl, rfl, rfl⟩
  | cons o r ih =>
    obtain ⟨i1, i2, i3⟩ := ih (fun x hx => hshape x (List.mem_cons_of_mem _ hx)) (fun x hx => hok x (List.mem_cons_of_mem _ hx))
    have hs := hshape o (List.mem_cons_self ..)
    have ho := hok o (List.mem_cons_self ..)
    rw [okDeepL_cons, targetsDeepL_cons, subKeysDeepL_cons, i1, i2, i3]
    cases o with
    | simple _ _ _ _ => exact ⟨rfl, rfl, rfl⟩
    | buildFile p c f a k subs rr cr raised sf ct =>
      have ho' : (!raised && !sf) = true := ho
      rw [Bool.and_eq_true, Bool.not_eq_true', Bool.not_eq_true'] at ho'
      obtain ⟨rfl, rfl⟩ := ho'
      obtain ⟨j1, j2, j3⟩ := simple_ops subs hs
      refine ⟨?_, ?_, ?_⟩
      · show ((!false && !false && okDeepL subs) && true) = true
        rw [j1]; rfl
      · show (targetsDeepL subs ++ [p]) ++ topOuts r = p :: topOuts r
        rw [j2]; rfl
      · show (registeredL subs ++ [_]).filterMap keyOf ++ topKeys r = topKeys r
        rw [j3]; rfl
    | subbuild f a k subs rr raised sf =>
      have ho' : (!raised && !sf) = true := ho
      rw [Bool.and_eq_true, Bool.not_eq_true', Bool.not_eq_true'] at ho'
      obtain ⟨rfl, rfl⟩ := ho'
      obtain ⟨j1, j2, j3⟩ := simple_ops subs hs
      refine ⟨?_, ?_, ?_⟩
      · show ((!false && !false && okDeepL subs) && true) = true
        rw [j1]; rfl
      · show targetsDeepL subs ++ topOuts r = topOuts r
        rw [j2]; rfl
      · show (registeredL subs ++ [_]).filterMap keyOf ++ topKeys r = subKey f a k :: topKeys r
        rw [j3]; rfl

theorem okTop_eq_opOk (o : Op) : okTop o = opOk o := by cases o <;> rfl

/-- **the record a flat, clean first build writes returns each of its calls' records** -/
theorem cachedIn_first (ops : List Op) (hshape : ∀ o ∈ ops, o.flatShape = true) (hok : ∀ o ∈ ops, opOk o = true)
    (hanti : (topOuts ops).Pairwise (· ≠ ·))
    (hkeys : (topKeys ops).Pairwise (fun x y => heq x y = false ∧ heq y x = false))
    (hrefl : ∀ key ∈ topKeys ops, heq key key = true)
    (rec : CacheRec) (hroots : rec.roots = ops.filter isComplexRegistered) : ∀ o ∈ ops, cachedIn rec o := by
  obtain ⟨h1, h2, h3⟩ := flat_ops ops hshape hok
  intro o ho
  exact cachedIn_nested ops h1 (by rw [h2]; exact hanti) (by rw [h3]; exact hkeys) rec hroots o ho
    (by rw [okTop_eq_opOk]; exact hok o ho)

theorem FirstRun.flatShape {prog : Prog} {t : Option Path} {s s2 : KSt} {r : CallRes} {ops : List Op}
    (h : FirstRun prog t s r s2 ops) : Flat prog → ∀ o ∈ ops, o.flatShape = true := by
  induction h with
  | ret v t s => intro _ o ho; exact nomatch ho
  | raise e t s => intro _ o ho; exact nomatch ho
  | query q k t s v e _ _ ih =>
    intro hf o ho
    cases hf with
    | query _ _ hk =>
      rcases List.mem_cons.mp ho with rfl | ho'
      · rfl
      · exact ih (hk _) o ho'
  | writeOut b mt k s _ ih => intro hf; cases hf with | write _ _ _ hk => exact ih hk
  | writeIn b mt k p s _ ih => intro hf; cases hf with | write _ _ _ hk => exact ih hk
  | bfSetupFail path cmp fname args kwargs body k t s e hsetup _ ih =>
    intro hf o ho
    cases hf with
    | buildFile _ _ _ _ _ _ _ _ _ _ hk =>
      rcases List.mem_cons.mp ho with rfl | ho'
      · rfl
      · exact ih (hk _) o ho'
  | bfMiss path cmp fname args kwargs body k t s sp1 made rb sb subs r s2 ops s1 s3 hs1 hs3 hf hsetup hout hrest hf1 hkb hf3 hkr _ _ _ ihk =>
    subst hs1 hs3
    intro hfl o ho
    cases hfl with
    | buildFile _ _ _ _ _ _ _ hleaf _ _ hk =>
      rcases List.mem_cons.mp ho with rfl | ho'
      · have hsubs := leaf_ops_simple hleaf (some path) (missStart (afterSetup s sp1 path made) path ⟨fname, some path, args, kwargs⟩)
        rw [hout] at hsubs
        unfold execFileOp
        cases (bfFinish sb.sp path made rb).1 <;> exact List.all_eq_true.mpr hsubs
      · exact ihk (hk _) o ho'
  | sbDup fname args kwargs body k t s hcl _ ih =>
    intro hf o ho
    cases hf with
    | subbuild _ _ _ _ _ _ hk =>
      rcases List.mem_cons.mp ho with rfl | ho'
      · rfl
      · exact ih (hk _) o ho'
  | sbMiss fname args kwargs body k t s rb sb subs r s2 ops s1 hs1 hf hcl hout hrest hkb hf3 hkr _ _ _ ihk =>
    subst hs1
    intro hfl o ho
    cases hfl with
    | subbuild _ _ _ _ _ hleaf hk =>
      rcases List.mem_cons.mp ho with rfl | ho'
      · have hsubs := leaf_ops_simple hleaf none (Impl.subStart (subClaim s (subKey fname args kwargs)) ⟨fname, none, args, kwargs⟩)
        rw [hout] at hsubs
        cases rb <;> exact List.all_eq_true.mpr hsubs
      · exact ihk (hk _) o ho'

theorem flat_ok_run {prog : Prog} (hflat : Flat prog) : ∀ (s : KSt), s.old.roots = [] → s.sp.failFiles = [] →
    s.sp.failSubs = [] → (∀ o ∈ (Impl.run prog none s).2.2, opOk o = true) → OkRun s (Impl.run prog none s).2.1 :=
  fun s h0 h1 h2 hok => nested_ok_run prog none s h0 h1 h2
    (flat_ops _ ((firstRun prog none s ⟨h0, h1, h2⟩).flatShape hflat) hok).1

theorem flat_first_facts {prog : Prog} (hflat : Flat prog) : ∀ (s : KSt), s.old.roots = [] → s.sp.failFiles = [] →
    s.sp.failSubs = [] → (∀ o ∈ (Impl.run prog none s).2.2, opOk o = true) →
    FirstFacts s (Impl.run prog none s).2.1 (Impl.run prog none s).2.2 := by
  intro s h0 h1 h2 hok
  have hsh := (firstRun prog none s ⟨h0, h1, h2⟩).flatShape hflat
  obtain ⟨hd, ht, _⟩ := flat_ops _ hsh hok
  have hF := nested_first_facts prog none s h0 h1 h2 hd
  exact ⟨hsh, by rw [← ht]; exact hF.outs, by rw [← ht]; exact hF.claimed⟩

/-- **C05 for flat programs, two whole builds**: a first build (no cache file) of a flat program in which every call
    succeeds, whose outputs are unrelated by the prefix order, on a tree that holds none of the paths the build is
    going to create — followed by a second build with nothing changed: the second build invokes NO user function
    and returns the same value. -/
theorem C05_flat_rebuild (w : KWorld) (cf : Path) (name : String) (versions : List (String × Json)) (prog : Prog)
    (hflat : Flat prog) (hwf : BuildDirs.TreeWF w.fs) (hnocache : w.fs.get cf = none) (cds : List Path)
    (hcds : dirsToMake (visible (Impl.buildStart w cf versions [] [] (noRec name versions) []).sp) cf [] cf.dropLast = .ok cds)
    (v : Json) (s2 : KSt) (ops : List Op)
    (hrun : Impl.run prog none (Impl.buildStart w cf versions [] [] (noRec name versions) cds) = (.ok v, s2, ops))
    (hok : ∀ o ∈ ops, opOk o = true) (hanti : Antichain (topOuts ops))
    (hkeys : (topKeys ops).Pairwise (fun x y => heq x y = false ∧ heq y x = false))
    (hrefl : ∀ key ∈ topKeys ops, heq key key = true)
    (hfresh : ∀ k, (k ∈ s2.sp.claimedFiles ∨ k ∈ s2.sp.createdDirs ∨ k ∈ cds ∨ k = cf) → w.fs.get k = none)
    (hdirs : ∀ d, (d ∈ s2.sp.createdDirs ∨ d ∈ cds) → s2.sp.fs.isDir d = true ∧ d ≠ cf)
    (hver : ∀ f, isEqual (verOf versions f) (verOf versions f) = true) :
    (Impl.build w cf name versions prog).res = .ok v ∧
    (Impl.build (Impl.build w cf name versions prog).world cf name versions prog).res = .ok v ∧
    (Impl.build (Impl.build w cf name versions prog).world cf name versions prog).invLog = [] := by
  have hr1 : (Impl.run prog none (Impl.buildStart w cf versions [] [] (noRec name versions) cds)).2.1 = s2 := by rw [hrun]
  have hr2 : (Impl.run prog none (Impl.buildStart w cf versions [] [] (noRec name versions) cds)).2.2 = ops := by rw [hrun]
  have hold0 : (Impl.buildStart w cf versions [] [] (noRec name versions) cds).old.roots = [] := rfl
  have hfacts := flat_first_facts hflat _ hold0 rfl rfl (by rw [hr2]; exact hok)
  rw [hr1, hr2] at hfacts
  have hokrun := flat_ok_run hflat _ hold0 rfl rfl (by rw [hr2]; exact hok)
  rw [hr1] at hokrun
  have hflatops := flat_ops ops hfacts.shape hok
  have hclaimed_out : ∀ p ∈ s2.sp.claimedFiles, p ∈ topOuts ops := fun p hp =>
    (hfacts.claimed p hp).resolve_left (fun h => nomatch h)
  obtain ⟨hres, hsame, hshelf, hinv2, hres2⟩ := rebuild_start w cf name versions prog hwf hnocache cds hcds v s2 ops hrun
    (topOuts ops) (writtenRec_outputs _ _ _ _ _ _ (by rw [outputs_eq_targetsDeep name ops hflatops.1, hflatops.2.1])) hfacts.outs
    (fun K hK1 hK2 => by
      rw [hokrun.strip K (fun p hp => hK1 p (hclaimed_out p hp)) hK2, buildStart_noRec_fs w cf name versions cds hnocache])
    hdirs hfresh
  have hcached := cachedIn_first ops hfacts.shape hok (hanti.imp (fun h => h.1)) hkeys hrefl
    (writtenRec name versions ops s2 cds) rfl
  obtain ⟨e1, e2, _⟩ := flat_second_run hflat _ _ hold0 hsame (fun f => hver f)
    (by rw [hr2]; exact hok) (by rw [hr2]; exact hcached) (by rw [hr2]; exact hanti)
    (by
      rw [hr2, hr1]
      intro p hp
      obtain ⟨⟨c, m, hg⟩, _, hne⟩ := hfacts.outs p hp
      exact hshelf p (Or.inl hp) (by intro e; rw [e, get_nil] at hg; cases hg) hne)
  exact ⟨hres, hres2 v (by rw [e1, hrun]), by rw [hinv2, e2]; rfl⟩


/-! ### non-vacuity: the one-output program of `C01Hash`, built twice on an empty tree -/

example : (Impl.build fxW ["c"] "n" [] exRoot).res = .ok .null ∧
    (Impl.build (Impl.build fxW ["c"] "n" [] exRoot).world ["c"] "n" [] exRoot).res = .ok .null ∧
    (Impl.build (Impl.build fxW ["c"] "n" [] exRoot).world ["c"] "n" [] exRoot).invLog = [] := by
  obtain ⟨hops, _, _⟩ := fx_first
  obtain ⟨hcl, hcd⟩ := fx_first_sets
  obtain ⟨hwf, hnc, hcds, hrun, hfresh⟩ := fxW_hyps hcl hcd fx_run.2.2.2.2.2
  exact C05_flat_rebuild fxW ["c"] "n" [] exRoot flat_exRoot hwf hnc [] hcds .null _ _ hrun
    (by rw [hops]; intro o ho; simp at ho; subst ho; rfl)
    (by rw [hops]; simp [topOuts, Antichain])
    (by rw [hops]; simp [topKeys])
    (by rw [hops]; simp [topKeys])
    hfresh
    (by intro d hd; rw [hcd] at hd; simp at hd)
    (by intro f; simp [verOf, isEqual])

end FB

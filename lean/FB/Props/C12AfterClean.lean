/-
  C12, continued: what `build` does on the tree a successful `clean` left (`Spec.clean`, `Spec.build`).
-/
import FB.Props.C12
namespace FB
open FS Spec

/-- **C12: a build after `clean` behaves like a first build** — after a successful `clean` the cache file is gone, so
    the next `build` takes the branch of a build that finds no cache file: it starts from an empty record on the tree
    `clean` left (which is the tree a first build would clean to: `preClean` with an empty record changes nothing
    there), whatever the program, the fault plan and the build name -/
theorem C12_build_after_clean (w : World) (cf : Path) (r : Rec) (n : Option String) (bn : String) (root : Prog)
    (ff : List Path) (fsb : List H) (ab : Nat)
    (hc : w.cacheState cf = .valid r) (hn : ¬ (n.isSome ∧ n ≠ some r.buildName)) :
    (Spec.clean w cf n).res = .ok .null ∧
    (Spec.clean w cf n).world.fs = preClean w.fs cf r ∧
    (Spec.clean w cf n).world.cacheState cf = .absent ∧
    Spec.build (Spec.clean w cf n).world cf bn root ff fsb ab =
      Spec.buildGo (Spec.clean w cf n).world cf bn root ff fsb ab { buildName := bn, outputs := [], createdDirs := [] } := by
  obtain ⟨b, m, hg⟩ := World.cacheState_valid hc
  have hgone := preClean_cf_gone w.fs cf r b m hg
  have hw : (Spec.clean w cf n).world = { w with fs := preClean w.fs cf r } := by
    simp [Spec.clean, hc, hn]
  have habs : (Spec.clean w cf n).world.cacheState cf = .absent := by
    rw [hw]; simp [World.cacheState, hgone]
  refine ⟨by simp [Spec.clean, hc, hn], by rw [hw], habs, ?_⟩
  simp [Spec.build, habs]

end FB

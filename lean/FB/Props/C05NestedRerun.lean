/-
  C05 — "a rebuild re-runs only calls that raised last time", for programs of ANY nesting depth.
  `nested_rerun` / `C05_nested_rerun`: the second run of any program, in a state that looks the same, with the first
  run's records in the cache and its outputs on the shelf, invokes exactly the functions of the calls that raised in the
  first run and — inside those — of the nested calls that raised (`rerunDeepL`, in the order of the invocation log),
  and returns the same value.  A call that returned is served from its record even when calls nested in it had
  raised (`replay_runF`: those are re-enacted by `unwind`, not re-executed); a call nested in a re-executed function
  is looked up again and served from its record if it had returned.  Only set-up failures are excluded (`noSFL`): a
  record containing one is never reusable, its function runs again and — having succeeded — rewrites its output with a
  new modification time, after which the two runs legitimately differ.
  The two runs are kept in step by `SameW` (equal trees and claims; a target has been written in the one run iff in
  the other) and `FI` (what the first run's state satisfies, so that an executed call provably leaves the pending
  writes of the enclosing targets alone: `after_run`).
-/
import FB.Props.C05Nested
namespace FB
open FS Spec Impl

theorem CacheOK_nil (ds : Nat) (old : CacheRec) (h : old.roots = []) (vs : List (String × Json)) (prog : Prog) :
    CacheOK ds old vs prog := by
  constructor
  · intro path cmp fname args kwargs body k _ p' rcmp rargs rkwargs subs ret cmpRes sf content hget
    simp [CacheRec.getFile, h, registeredL] at hget
  · intro fname args kwargs body k _ f a kk subs ret sf hget
    simp [CacheRec.getSub, h, registeredL] at hget

mutual
/-- the invocations a second run repeats: the calls that raised and, inside them, the nested calls that raised
    (newest first, like `invLog`); a call that returned is served from its record, whatever raised inside it -/
def rerunDeep : Op → List Inv
  | .simple _ _ _ _ => []
  | .buildFile p _ f a k subs _ _ raised sf _ => if raised && !sf then rerunDeepL subs ++ [⟨f, some p, a, k⟩] else []
  | .subbuild f a k subs _ raised sf => if raised && !sf then rerunDeepL subs ++ [⟨f, none, a, k⟩] else []
def rerunDeepL : List Op → List Inv
  | [] => []
  | o :: os => rerunDeepL os ++ rerunDeep o
end

theorem rerunDeepL_cons (o : Op) (os : List Op) : rerunDeepL (o :: os) = rerunDeepL os ++ rerunDeep o := by
  simp [rerunDeepL]

theorem rerunDeep_execFileOp_ok (path : Path) (cmp : Cmp) (fname : String) (args kwargs : Json) (subs : List Op)
    (rb : CallRes) (j : Json) (s3 : KSt) : rerunDeep (execFileOp path cmp fname args kwargs subs rb (.ok j) s3) = [] := rfl

theorem rerunDeep_execFileOp_error (path : Path) (cmp : Cmp) (fname : String) (args kwargs : Json) (subs : List Op)
    (rb : CallRes) (x : Exc) (s3 : KSt) :
    rerunDeep (execFileOp path cmp fname args kwargs subs rb (.error x) s3) = rerunDeepL subs ++ [⟨fname, some path, args, kwargs⟩] := rfl

theorem registered_execFileOp (path : Path) (cmp : Cmp) (fname : String) (args kwargs : Json) (subs : List Op)
    (rb r' : CallRes) (s3 : KSt) :
    registered (execFileOp path cmp fname args kwargs subs rb r' s3) =
      registeredL subs ++ [execFileOp path cmp fname args kwargs subs rb r' s3] := by
  cases r' <;> exact registered_buildFile ..

theorem registered_execSubOp (fname : String) (args kwargs : Json) (subs : List Op) (r : CallRes) :
    registered (execSubOp fname args kwargs subs r) = registeredL subs ++ [execSubOp fname args kwargs subs r] := by
  cases r <;> exact registered_subbuild ..

/-- corresponding points of the two runs: the trees and claims are equal, and a target has been written into in the
    one run iff in the other -/
structure SameW (s s' : KSt) : Prop where
  same : Same s s'
  pw : ∀ q, (PF s.sp q).isSome = (PF s'.sp q).isSome

/-- what the first run's state satisfies at every point: the hypotheses of `after_run` beyond those of a first-run state (needed to know that an
    executed call leaves the pending writes of the enclosing targets alone) -/
structure FI (ds : Nat) (t : Option Path) (s : KSt) : Prop where
  dsz : s.sp.dirSize = ds
  wf : s.WF
  pc : PendClaimed s.sp
  tc : ∀ p, t = some p → p ∈ s.sp.claimedFiles

/-- `q` is unrelated to every target of the record list -/
def Unrel (q : Path) (tg : List Path) : Prop := ∀ p ∈ tg, ¬ q <+: p ∧ ¬ p <+: q

/-- how the second run (from `s'` to `e'`) relates to the first (from `s` to `e`) with records `ops`: same result, the
    calls that raised logged again, states alike, cache and versions as at the start, shelf untouched away from the targets -/
structure RerunPost (s s' e e' : KSt) (r r' : CallRes) (ops : List Op) : Prop where
  res : r' = r
  inv : e'.sp.invLog = rerunDeepL ops ++ s'.sp.invLog
  sw : SameW e e'
  old : e'.old = s'.old
  nv : e'.newVersions = s'.newVersions
  shelf : ∀ q, Unrel q (targetsDeepL ops) → e'.shelf.get q = s'.shelf.get q

theorem RerunPost.cons_simple {s s' e e' : KSt} {r r' : CallRes} {ops : List Op} (o : Op)
    (ht : targetsDeep o = []) (hr : rerunDeep o = []) (h : RerunPost s s' e e' r r' ops) : RerunPost s s' e e' r r' (o :: ops) :=
  ⟨h.res, by rw [rerunDeepL_cons, hr, List.append_nil]; exact h.inv, h.sw, h.old, h.nv,
   fun q hq => h.shelf q (by rw [targetsDeepL_cons, ht, List.nil_append] at hq; exact hq)⟩

theorem rerunDeepL_single (o : Op) : rerunDeepL [o] = rerunDeep o := by simp [rerunDeepL]

theorem targetsDeepL_single (o : Op) : targetsDeepL [o] = targetsDeep o := by simp [targetsDeepL]

/-- a call, then the rest of the run -/
theorem RerunPost.cons {s s' m m' e e' : KSt} {rc rc' r r' : CallRes} {o : Op} {ops : List Op}
    (hc : RerunPost s s' m m' rc rc' [o]) (h : RerunPost m m' e e' r r' ops) : RerunPost s s' e e' r r' (o :: ops) :=
  ⟨h.res, by rw [h.inv, hc.inv, rerunDeepL_single, rerunDeepL_cons, List.append_assoc], h.sw, h.old.trans hc.old, h.nv.trans hc.nv,
   fun q hq => (h.shelf q fun p hp => hq p (by rw [targetsDeepL_cons]; exact List.mem_append_right _ hp)).trans
     (hc.shelf q fun p hp => hq p (by rw [targetsDeepL_cons]; rw [targetsDeepL_single] at hp; exact List.mem_append_left _ hp))⟩

theorem Unrel.of_antichain {l r : List Path} (h : Antichain (l ++ r)) {q : Path} (hq : q ∈ r) : Unrel q l :=
  fun _ hp => have := Antichain.ne_of_mem_append h hp hq; ⟨this.2.2, this.2.1⟩

/-- the set-up of a `build_file` call leaves the shelf alone away from the target -/
theorem missStart_shelf (s' : KSt) (path : Path) (made : List Path) (inv : Inv) (hmade : ∀ d ∈ made, d <+: path)
    (hpm : path ∉ made) (q : Path) (h1 : ¬ q <+: path) (h2 : ¬ path <+: q) :
    (missStart (afterSetup s' (setupState s'.sp path made) path made) path inv).shelf.get q = s'.shelf.get q := by
  show ((clearWay s'.shelf path made).erase path).get q = _
  rw [get_erase_ne _ _ _ (fun e => h1 (by rw [e]; exact List.prefix_refl _))]
  exact afterSetup_shelf s' (setupState s'.sp path made) path made hmade q (Or.inl h2) (Or.inl h1) hpm

/-- the first run around a `build_file` call whose function runs: `FI` holds where the function starts and again
    after the call, when what is pending is what was pending before it -/
theorem FI.file_call {ds : Nat} {t : Option Path} {s e1 : KSt} {path : Path} {made : List Path} {inv : Inv} {body : Prog}
    {r1 : CallRes} {ops1 : List Op} (hfi : FI ds t s) (hf : First s)
    (hsetup : bfSetup s.sp path = .ok (setupState s.sp path made, made))
    (hb : Impl.run body (some path) (missStart (afterSetup s (setupState s.sp path made) path made) path inv) = (r1, e1, ops1)) :
    FI ds (some path) (missStart (afterSetup s (setupState s.sp path made) path made) path inv) ∧
    FI ds t (withSp e1 (bfFinish e1.sp path made r1).2) ∧
    ∀ q, PF (withSp e1 (bfFinish e1.sp path made r1).2).sp q = PF s.sp q := by
  obtain ⟨_, hnc, _, _, _, _⟩ := bfSetup_ok_fields s.sp _ path made hsetup
  have hfi1 : FI ds (some path) (missStart (afterSetup s (setupState s.sp path made) path made) path inv) := by
    refine ⟨hfi.dsz, fun p hp => ?_, fun q hq => ?_, fun p hp => ?_⟩
    · rcases List.mem_cons.mp (show p ∈ path :: s.sp.inProg from hp) with rfl | hp'
      · exact List.mem_cons_self ..
      · exact List.mem_cons_of_mem _ (hfi.wf p hp')
    · exact hfi.pc q (fun h => hq (List.mem_cons_of_mem _ h))
    · injection hp with hp
      rw [← hp]; exact List.mem_cons_self ..
  have haf := after_run (ds := ds) body (some path) _ hfi1.dsz hf.ff hf.fsb hfi1.wf hfi1.pc hfi1.tc (CacheOK_nil ds _ hf.old _ body)
  rw [hb] at haf
  have hcl3 : (bfFinish e1.sp path made r1).2.claimedFiles = e1.sp.claimedFiles := bfFinish_claimed _ _ _ _
  have hpend3 : (bfFinish e1.sp path made r1).2.pending = e1.sp.pending.filter (fun x => x.1 ≠ path) := bfFinish_pending _ _ _ _
  have hcl03 : ∀ p ∈ s.sp.claimedFiles, p ∈ (bfFinish e1.sp path made r1).2.claimedFiles :=
    fun p hp => by rw [hcl3]; exact haf.claimed p (List.mem_cons_of_mem _ hp)
  refine ⟨hfi1, ⟨?_, fun p hp => ?_, fun q hq => ?_, fun p hp => hcl03 p (hfi.tc p hp)⟩, fun q => ?_⟩
  · show (bfFinish _ path made r1).2.dirSize = ds
    rw [(bfFinish_keeps _ _ _ _).1]; exact haf.dsz
  · have hp' : p ∈ (bfFinish e1.sp path made r1).2.inProg := hp
    rw [bfFinish_inProg, haf.inProg] at hp'
    exact hcl03 p (hfi.wf p (by have : p ∈ (path :: s.sp.inProg).erase path := hp'; rw [List.erase_cons_head] at this; exact this))
  · show pendingFind (bfFinish _ path made r1).2.pending q = none
    rw [hpend3, pendingFind_filter]
    split
    · rfl
    · exact haf.pc q (by rw [← hcl3]; exact hq)
  · show PF (bfFinish _ path made r1).2 q = _
    rw [PF_filter e1.sp _ path q hpend3]
    by_cases hq : q = path
    · rw [if_pos hq, hq]; unfold PF; rw [hfi.pc path hnc]; rfl
    · rw [if_neg hq, haf.other q (fun e => hq (by injection e with e; exact e.symm))]; rfl

/-- **a `build_file` call that raised in the first run is executed again in the second**: its record makes the
    look-up miss; if the function's second run relates to its first, `(r1, e1, ops1)`, as `RerunPost` says, the call
    fails in the same way and the two calls as wholes relate in that way too -/
theorem bf_rerun (body : Prog) (k : CallRes → Prog) (t : Option Path) (s s' : KSt) (path : Path) (cmp : Cmp)
    (fname : String) (args kwargs : Json) (made : List Path) (x : Exc) (r1 : CallRes) (e1 : KSt) (ops1 : List Op)
    (hsame : Same s s') (hsetup : bfSetup s.sp path = .ok (setupState s.sp path made, made))
    (hx : (bfFinish e1.sp path made r1).1 = .error x)
    (hc : cachedIn s'.old (execFileOp path cmp fname args kwargs ops1 r1 (.error x) (withSp e1 (bfFinish e1.sp path made r1).2)))
    {s1 : KSt} (hpb : RerunPost s1
      (missStart (afterSetup s' (setupState s'.sp path made) path made) path ⟨fname, some path, args, kwargs⟩) e1
      (Impl.run body (some path)
        (missStart (afterSetup s' (setupState s'.sp path made) path made) path ⟨fname, some path, args, kwargs⟩)).2.1 r1
      (Impl.run body (some path)
        (missStart (afterSetup s' (setupState s'.sp path made) path made) path ⟨fname, some path, args, kwargs⟩)).1 ops1) :
    ∃ (e' : KSt) (op : Op),
      Impl.run (.buildFile path cmp fname args kwargs body k) t s' =
        (let rest := Impl.run (k (.error x)) t e'
         (rest.1, rest.2.1, op :: rest.2.2)) ∧
      RerunPost s s' (withSp e1 (bfFinish e1.sp path made r1).2) e' (.error x) (.error x)
        [execFileOp path cmp fname args kwargs ops1 r1 (.error x) (withSp e1 (bfFinish e1.sp path made r1).2)] := by
  obtain ⟨_, hmade, hpm, _⟩ := bfSetup_ok_made _ _ _ _ hsetup
  obtain ⟨kept, hrec⟩ := execFileOp_error path cmp fname args kwargs ops1 r1 x (withSp e1 (bfFinish e1.sp path made r1).2)
  have hold := hc
  rw [hrec] at hold
  rw [run_buildFile_miss (bfSetup_same hsame path _ made hsetup)
    (lookupFile_raised _ path cmp fname args kwargs made _ _ _ _ _ _ _ _ _ hold)]
  simp only
  generalize Impl.run body (some path) (missStart (afterSetup s' (setupState s'.sp path made) path made) path ⟨fname, some path, args, kwargs⟩) = out' at hpb ⊢
  have hx' : (bfFinish out'.2.1.sp path made out'.1).1 = .error x := by
    rw [hpb.res]
    refine bfFinish_fail_both _ _ _ _ _ _ hx (fun hn => ?_)
    have hw := hpb.sw.pw path
    unfold PF at hw
    rw [hn] at hw
    cases hw' : pendingFind out'.2.1.sp.pending path with
    | none => rfl
    | some x => rw [hw'] at hw; simp at hw
  have hst : (bfFinish e1.sp path made r1).2 = failSt e1.sp path made := bfFinish_error_state _ _ _ _ x hx
  have hst' : (bfFinish out'.2.1.sp path made out'.1).2 = failSt out'.2.1.sp path made := bfFinish_error_state _ _ _ _ x hx'
  rw [hx']
  refine ⟨withSp out'.2.1 (bfFinish out'.2.1.sp path made out'.1).2, _, rfl, rfl, ?_, ⟨?_, fun q => ?_⟩, hpb.old, hpb.nv,
    fun q hq => ?_⟩
  · show (bfFinish out'.2.1.sp path made out'.1).2.invLog = _
    rw [hst', rerunDeepL_single, rerunDeep_execFileOp_error]
    show out'.2.1.sp.invLog = _
    rw [hpb.inv]
    show _ ++ (⟨fname, some path, args, kwargs⟩ :: s'.sp.invLog) = _
    simp only [List.append_assoc, List.singleton_append]
  · rw [hst, hst']; exact hpb.sw.same.failed path made
  · show (PF (bfFinish e1.sp path made r1).2 q).isSome = (PF (bfFinish out'.2.1.sp path made out'.1).2 q).isSome
    rw [PF_filter e1.sp _ path q (bfFinish_pending _ _ _ _), PF_filter out'.2.1.sp _ path q (bfFinish_pending _ _ _ _)]
    split
    · rfl
    · exact hpb.sw.pw q
  · rw [targetsDeepL_single, targetsDeep_execFileOp] at hq
    have hqp := hq path (List.mem_append_right _ (List.mem_singleton.mpr rfl))
    show out'.2.1.shelf.get q = _
    rw [hpb.shelf q (fun p hp => hq p (List.mem_append_left _ hp))]
    exact missStart_shelf s' path made _ hmade hpm q hqp.1 hqp.2

/-- **a `subbuild` call that raised in the first run is executed again in the second** (as `bf_rerun`; a subbuild has
    no set-up and nothing to finish) -/
theorem sb_rerun (body : Prog) (k : CallRes → Prog) (t : Option Path) (s s' : KSt) (fname : String) (args kwargs : Json)
    (x : Exc) (e1 : KSt) (ops1 : List Op) (hsame : Same s s')
    (hcl : s.sp.claimedSubs.any (heq (subKey fname args kwargs)) = false)
    (hc : cachedIn s'.old (execSubOp fname args kwargs ops1 (.error x)))
    {s1 : KSt} (hpb : RerunPost s1 (Impl.subStart (subClaim s' (subKey fname args kwargs)) ⟨fname, none, args, kwargs⟩) e1
      (Impl.run body none (Impl.subStart (subClaim s' (subKey fname args kwargs)) ⟨fname, none, args, kwargs⟩)).2.1 (.error x)
      (Impl.run body none (Impl.subStart (subClaim s' (subKey fname args kwargs)) ⟨fname, none, args, kwargs⟩)).1 ops1) :
    ∃ (e' : KSt) (op : Op),
      Impl.run (.subbuild fname args kwargs body k) t s' =
        (let rest := Impl.run (k (.error x)) t e'
         (rest.1, rest.2.1, op :: rest.2.2)) ∧
      RerunPost s s' e1 e' (.error x) (.error x) [execSubOp fname args kwargs ops1 (.error x)] := by
  rw [run_subbuild_miss (by rw [hsame.claimedSubs]; exact hcl) (by simp [hsame.fsb'])
    (lookupSub_raised _ fname args kwargs _ _ _ _ _ _ hc)]
  simp only
  generalize Impl.run body none (Impl.subStart (subClaim s' (subKey fname args kwargs)) ⟨fname, none, args, kwargs⟩) = out' at hpb ⊢
  rw [show out'.1 = .error x from hpb.res]
  refine ⟨out'.2.1, _, rfl, rfl, ?_, hpb.sw, hpb.old, hpb.nv, fun q hq => ?_⟩
  · rw [hpb.inv, rerunDeepL_single]
    simp [execSubOp, rerunDeep, Impl.subStart, subClaim, liftSp]
  · rw [targetsDeepL_single, targetsDeep_execSubOp] at hq
    rw [hpb.shelf q hq]
    rfl

theorem FirstRun.rerun {prog : Prog} {t : Option Path} {s e : KSt} {r : CallRes} {ops : List Op}
    (h : FirstRun prog t s r e ops) : ∀ (s' fin : KSt) (ds : Nat), SameW s s' → FI ds t s →
    (∀ f ∈ fnamesDeepL ops, versionOk s' f = true) → noSFL ops = true →
    (∀ o ∈ registeredL ops, cachedIn s'.old o ∧ argsRefl o = true) → Antichain (targetsDeepL ops) →
    (∀ p ∈ targetsDeepL ops, s.sp.fs.get p = none) → FirstKeeps e fin →
    (∀ p ∈ targetsDeepL ops, s'.shelf.get p = fin.sp.fs.get p) →
    RerunPost s s' e (Impl.run prog t s').2.1 r (Impl.run prog t s').1 ops ∧ FI ds t e := by
  induction h with
  | ret v t s =>
    intro s' fin ds hsw hfi _ _ _ _ _ _ _
    rw [run_ret]
    exact ⟨⟨rfl, rfl, hsw, rfl, rfl, fun _ _ => rfl⟩, hfi⟩
  | raise x t s =>
    intro s' fin ds hsw hfi _ _ _ _ _ _ _
    exact ⟨⟨rfl, rfl, hsw, rfl, rfl, fun _ _ => rfl⟩, hfi⟩
  | query q k t s v x hrec _ ih =>
    intro s' fin ds hsw hfi hv hok hc hanti habs hfin hsup
    obtain ⟨hp, hfi'⟩ := ih s' fin ds hsw hfi hv hok hc hanti habs hfin hsup
    rw [Impl.run_query, hsw.same.visible, hsw.same.dirSize]
    exact ⟨hp.cons_simple _ rfl rfl, hfi'⟩
  | writeOut b mt k s _ ih =>
    intro s' fin ds hsw hfi hv hok hc hanti habs hfin hsup
    rw [run_write_none]
    exact ih s' fin ds hsw hfi hv hok hc hanti habs hfin hsup
  | writeIn b mt k p s _ ih =>
    intro s' fin ds hsw hfi hv hok hc hanti habs hfin hsup
    rw [run_write_some]
    have hpcl : p ∈ s.sp.claimedFiles := hfi.tc p rfl
    have hsw1 : SameW (liftSp s fun sp => { sp with pending := (p, b, mt.getD sp.clock) :: sp.pending, clock := sp.clock + 1 })
        (liftSp s' fun sp => { sp with pending := (p, b, mt.getD sp.clock) :: sp.pending, clock := sp.clock + 1 }) := by
      refine ⟨hsw.same.of_seen rfl rfl, fun q => ?_⟩
      by_cases hqp : p = q
      · subst hqp
        simp [PF, liftSp, pendingFind_cons_self]
      · have := hsw.pw q
        simp only [PF, liftSp] at this ⊢
        rw [pendingFind_cons_ne _ _ _ _ _ hqp, pendingFind_cons_ne _ _ _ _ _ hqp]
        exact this
    have hfi1 : FI ds (some p) (liftSp s fun sp => { sp with pending := (p, b, mt.getD sp.clock) :: sp.pending, clock := sp.clock + 1 }) := by
      refine ⟨hfi.dsz, hfi.wf, fun q hq => ?_, hfi.tc⟩
      have hq' : q ∉ s.sp.claimedFiles := hq
      have hne : p ≠ q := fun e => hq' (e ▸ hpcl)
      show pendingFind ((p, b, mt.getD s.sp.clock) :: s.sp.pending) q = none
      rw [pendingFind_cons_ne _ _ _ _ _ hne]; exact hfi.pc q hq'
    obtain ⟨hp, hfi'⟩ := ih _ fin ds hsw1 hfi1
      (fun f hf => (versionOk_congr (b := s') rfl rfl f).trans (hv f hf)) hok hc hanti habs hfin hsup
    exact ⟨⟨hp.res, hp.inv, hp.sw, hp.old, hp.nv, hp.shelf⟩, hfi'⟩
  | bfSetupFail path cmp fname args kwargs body k t s x hsetup _ _ =>
    intro s' fin ds _ _ _ hok _ _ _ _ _
    simp [noSFL, noSF] at hok
  | bfMiss path cmp fname args kwargs body k t s sp1 made r1 e1 ops1 r e ops3 s1 s3 hs1 hs3 hf hsetup hb hk hf1 hkb hf3 hkr hd1 _ ihb ihk =>
    subst hs1 hs3
    intro s' fin ds hsw hfi hv hok hc hanti habs hfin hsup
    obtain ⟨rfl, _, _, _, _, _⟩ := bfSetup_ok_fields s.sp sp1 path made hsetup
    obtain ⟨_, hmade, hpm, _⟩ := bfSetup_ok_made _ _ _ _ hsetup
    rw [fnamesDeepL_cons, fnamesDeep_execFileOp] at hv
    rw [targetsDeepL_cons, targetsDeep_execFileOp] at hanti habs hsup
    rw [noSFL_cons, Bool.and_eq_true] at hok
    rw [registeredL_cons, registered_execFileOp] at hc
    have hoksubs : noSFL ops1 = true := noSF_execFileOp _ _ _ _ _ _ _ _ _ hok.1
    have hop := hc _ (List.mem_append_left _ (List.mem_append_right _ (List.mem_singleton.mpr rfl)))
    obtain ⟨hsub_path, hrest_path, _⟩ := hanti.call
    have hnot_made : ∀ p, ¬ p <+: path → p ∉ made := fun p hp hm => hp (hmade p hm)
    obtain ⟨hfi1, hfi3, hpf3⟩ := hfi.file_call hf hsetup hb
    have hfin3 := hkr.trans hfin
    -- the call in the second run: served if it had returned, executed again if it had raised
    have hcall : ∃ (e' : KSt) (op : Op),
        Impl.run (.buildFile path cmp fname args kwargs body k) t s' =
          (let rest := Impl.run (k (bfFinish e1.sp path made r1).1) t e'
           (rest.1, rest.2.1, op :: rest.2.2)) ∧
        RerunPost s s' (withSp e1 (bfFinish e1.sp path made r1).2) e' (bfFinish e1.sp path made r1).1 (bfFinish e1.sp path made r1).1
          [execFileOp path cmp fname args kwargs ops1 r1 (bfFinish e1.sp path made r1).1 (withSp e1 (bfFinish e1.sp path made r1).2)] := by
      rcases callRes_cases (bfFinish e1.sp path made r1).1 with ⟨j, hj⟩ | ⟨x, hx⟩
      · obtain ⟨e', op, hrun', hsame3, hold3, hnv3, hinv3, hpend3, hshelf3⟩ := bf_served body k t s s' fin path cmp fname args kwargs
          made j r1 e1 ops1 hb hf.old hsw.same hsetup hj (fun f hf => hv f (List.mem_append_left _ hf)) hoksubs hop hanti.left
          (fun p hp => habs p (List.mem_append_left _ hp)) hfin3 (fun p hp => hsup p (List.mem_append_left _ hp))
        rw [hj]
        refine ⟨e', op, hrun', rfl, ?_, ⟨hsame3, fun q => by rw [hpf3 q, hsw.pw q]; unfold PF; rw [hpend3]⟩, hold3, hnv3, fun q hq => ?_⟩
        · rw [hinv3, rerunDeepL_single, rerunDeep_execFileOp_ok, List.nil_append]
        · rw [targetsDeepL_single, targetsDeep_execFileOp] at hq
          have hqp := hq path (List.mem_append_right _ (List.mem_singleton.mpr rfl))
          exact hshelf3 q (fun p hp => (hq p (List.mem_append_left _ hp)).1) hqp.1 hqp.2
      · -- the induction hypothesis applies to the function's second run
        obtain ⟨hmk, hfs1⟩ := setupState_fs_absent s.sp path made hpm (habs path (by simp))
        have hpath_out : e1.sp.fs.get path = none :=
          hd1.absent path (by show (setupState s.sp path made).fs.get path = none; rw [hfs1]; exact hmk) (fun p hp => (hsub_path p hp).2.2)
        obtain ⟨hpb, _⟩ := ihb
          (missStart (afterSetup s' (setupState s'.sp path made) path made) path ⟨fname, some path, args, kwargs⟩) fin ds
          ⟨(hsw.same.setup path made).missStart _ _, hsw.pw⟩ hfi1
          (fun f hf => (versionOk_congr (b := s') rfl rfl f).trans (hv f (List.mem_append_left _ (List.mem_cons_of_mem _ hf)))) hoksubs
          (fun o ho => hc o (List.mem_append_left _ (List.mem_append_left _ ho))) hanti.left.left
          (fun p hp => setupState_absent _ _ _ _ (hsub_path p hp).1 (hnot_made p (hsub_path p hp).2.1)
            (habs p (List.mem_append_left _ (List.mem_append_left _ hp))))
          ((FirstKeeps.of_finish e1 path made r1 hpath_out hf3.ff hf3.fsb).trans hfin3)
          (fun p hp => (missStart_shelf s' path made _ hmade hpm p (hsub_path p hp).2.1 (hsub_path p hp).2.2).trans
            (hsup p (List.mem_append_left _ (List.mem_append_left _ hp))))
        rw [hx] at hop ⊢
        exact bf_rerun body k t s s' path cmp fname args kwargs made x r1 e1 ops1 hsw.same hsetup hx hop.1 hpb
    obtain ⟨e', op, hrun', hcp⟩ := hcall
    rw [hrun']
    simp only
    obtain ⟨hp, hfiE⟩ := ihk e' fin ds hcp.sw hfi3
      (fun f hf => (versionOk_congr hcp.old hcp.nv f).trans (hv f (List.mem_append_right _ hf))) hok.2
      (fun o ho => by rw [hcp.old]; exact hc o (List.mem_append_right _ ho)) hanti.right
      (fun p hp => bfFinish_absent _ _ _ _ _ (hrest_path p hp).1
        (hd1.absent p
          (setupState_absent _ _ _ _ (hrest_path p hp).1 (hnot_made p (hrest_path p hp).2.1) (habs p (List.mem_append_right _ hp)))
          (fun p' hp' => (Unrel.of_antichain hanti hp p' (List.mem_append_left _ hp')).1)))
      hfin
      (fun p hp => (hcp.shelf p (by rw [targetsDeepL_single, targetsDeep_execFileOp]; exact Unrel.of_antichain hanti hp)).trans
        (hsup p (List.mem_append_right _ hp)))
    exact ⟨hcp.cons hp, hfiE⟩
  | sbDup fname args kwargs body k t s hcl _ _ =>
    intro s' fin ds _ _ _ hok _ _ _ _ _
    simp [noSFL, noSF] at hok
  | sbMiss fname args kwargs body k t s r1 e1 ops1 r e ops3 s1 hs1 hf hcl hb hk hkb hf3 hkr hd1 _ ihb ihk =>
    subst hs1
    intro s' fin ds hsw hfi hv hok hc hanti habs hfin hsup
    rw [fnamesDeepL_cons, fnamesDeep_execSubOp] at hv
    rw [targetsDeepL_cons, targetsDeep_execSubOp] at hanti habs hsup
    rw [noSFL_cons, Bool.and_eq_true] at hok
    rw [registeredL_cons, registered_execSubOp] at hc
    have hoksubs : noSFL ops1 = true := noSF_execSubOp _ _ _ _ _ hok.1
    have hop := hc _ (List.mem_append_left _ (List.mem_append_right _ (List.mem_singleton.mpr rfl)))
    -- the first run: the state the function starts in, and the state after the call
    have hfi1 : FI ds none (Impl.subStart (subClaim s (subKey fname args kwargs)) ⟨fname, none, args, kwargs⟩) :=
      ⟨hfi.dsz, hfi.wf, hfi.pc, fun p hp => nomatch hp⟩
    have haf := after_run (ds := ds) body none (Impl.subStart (subClaim s (subKey fname args kwargs)) ⟨fname, none, args, kwargs⟩)
      hfi1.dsz hf.ff hf.fsb hfi1.wf hfi1.pc hfi1.tc (CacheOK_nil ds _ hf.old _ body)
    rw [hb] at haf
    have hpf1 : ∀ q, PF e1.sp q = PF s.sp q := fun q => haf.other q (fun e => nomatch e)
    have hfin2 : FirstKeeps e1 fin := hkr.trans hfin
    -- the call in the second run
    have hcall : ∃ (e' : KSt) (op : Op),
        Impl.run (.subbuild fname args kwargs body k) t s' =
          (let rest := Impl.run (k r1) t e'
           (rest.1, rest.2.1, op :: rest.2.2)) ∧
        RerunPost s s' e1 e' r1 r1 [execSubOp fname args kwargs ops1 r1] := by
      cases r1 with
      | ok j =>
        obtain ⟨e', op, hrun', hsame2, hR2, hpend2⟩ := sb_served body k t s s' fin fname args kwargs j e1 ops1 hb hf.old hsw.same hcl
          (fun f hf => hv f (List.mem_append_left _ hf)) hoksubs hop.1 hanti.left (fun p hp => habs p (List.mem_append_left _ hp)) hfin2
          (fun p hp => hsup p (List.mem_append_left _ hp))
        refine ⟨e', op, hrun', rfl, ?_,
          ⟨hsame2, fun q => by rw [hpf1 q, hsw.pw q]; unfold PF; rw [hpend2]⟩, hR2.old, hR2.nv, fun q hq => ?_⟩
        · rw [hR2.inv, rerunDeepL_single]
          simp [execSubOp, rerunDeep]
        · rw [targetsDeepL_single, targetsDeep_execSubOp] at hq
          exact hR2.shelf q (fun p hp => (hq p hp).1)
      | error x =>
        obtain ⟨hpb, _⟩ := ihb (Impl.subStart (subClaim s' (subKey fname args kwargs)) ⟨fname, none, args, kwargs⟩) fin ds
          ⟨(hsw.same.subClaim _).subStart _, hsw.pw⟩ hfi1
          (fun f hf => (versionOk_congr (b := s') rfl rfl f).trans (hv f (List.mem_append_left _ (List.mem_cons_of_mem _ hf)))) hoksubs
          (fun o ho => hc o (List.mem_append_left _ (List.mem_append_left _ ho)))
          hanti.left (fun p hp => habs p (List.mem_append_left _ hp)) hfin2 (fun p hp => hsup p (List.mem_append_left _ hp))
        exact sb_rerun body k t s s' fname args kwargs x e1 ops1 hsw.same hcl hop.1 hpb
    obtain ⟨e', op, hrun', hcp⟩ := hcall
    rw [hrun']
    simp only
    obtain ⟨hp, hfiE⟩ := ihk e' fin ds hcp.sw ⟨haf.dsz, haf.wf, haf.pc, fun p hp => haf.claimed p (hfi.tc p hp)⟩
      (fun f hf => (versionOk_congr hcp.old hcp.nv f).trans (hv f (List.mem_append_right _ hf))) hok.2
      (fun o ho => by rw [hcp.old]; exact hc o (List.mem_append_right _ ho)) hanti.right
      (fun p hp => hd1.absent p (habs p (List.mem_append_right _ hp)) (fun p' hp' => (Unrel.of_antichain hanti hp p' hp').1)) hfin
      (fun p hp => (hcp.shelf p (by rw [targetsDeepL_single, targetsDeep_execSubOp]; exact Unrel.of_antichain hanti hp)).trans
        (hsup p (List.mem_append_right _ hp)))
    exact ⟨hcp.cons hp, hfiE⟩

theorem nested_rerun (prog : Prog) : ∀ (t : Option Path) (s s' fin : KSt) (ds : Nat),
    s.old.roots = [] → SameW s s' → FI ds t s →
    (∀ f ∈ fnamesDeepL (Impl.run prog t s).2.2, versionOk s' f = true) →
    noSFL (Impl.run prog t s).2.2 = true →
    (∀ o ∈ registeredL (Impl.run prog t s).2.2, cachedIn s'.old o ∧ argsRefl o = true) →
    Antichain (targetsDeepL (Impl.run prog t s).2.2) →
    (∀ p ∈ targetsDeepL (Impl.run prog t s).2.2, s.sp.fs.get p = none) →
    FirstKeeps (Impl.run prog t s).2.1 fin →
    (∀ p ∈ targetsDeepL (Impl.run prog t s).2.2, s'.shelf.get p = fin.sp.fs.get p) →
    RerunPost s s' (Impl.run prog t s).2.1 (Impl.run prog t s').2.1 (Impl.run prog t s).1 (Impl.run prog t s').1
      (Impl.run prog t s).2.2 ∧ FI ds t (Impl.run prog t s).2.1 :=
  fun t s s' fin ds h0 hsw => (firstRun prog t s ⟨h0, hsw.same.ff, hsw.same.fsb⟩).rerun s' fin ds hsw

/-- **C05 with failures, any nesting**: a second run, in a state that looks the same, with the first run's records in
    the cache and its outputs on the shelf, invokes exactly the functions of the calls that raised in the first run
    (and, inside those, of the nested calls that raised) — `rerunDeepL`, in order — and returns the same value.  A call
    that returned is served from its record even if calls nested in it had raised.  (No call may have failed in its
    set-up: a record containing such a failure is never reusable.) -/
theorem C05_nested_rerun (prog : Prog) (t : Option Path) (s s' fin : KSt) (ds : Nat)
    (h0 : s.old.roots = []) (hsw : SameW s s') (hfi : FI ds t s)
    (hv : ∀ f ∈ fnamesDeepL (Impl.run prog t s).2.2, versionOk s' f = true)
    (hok : noSFL (Impl.run prog t s).2.2 = true)
    (hc : ∀ o ∈ registeredL (Impl.run prog t s).2.2, cachedIn s'.old o ∧ argsRefl o = true)
    (hanti : Antichain (targetsDeepL (Impl.run prog t s).2.2))
    (habs : ∀ p ∈ targetsDeepL (Impl.run prog t s).2.2, s.sp.fs.get p = none)
    (hfin : FirstKeeps (Impl.run prog t s).2.1 fin)
    (hsup : ∀ p ∈ targetsDeepL (Impl.run prog t s).2.2, s'.shelf.get p = fin.sp.fs.get p) :
    (Impl.run prog t s').1 = (Impl.run prog t s).1 ∧
    (Impl.run prog t s').2.1.sp.invLog = rerunDeepL (Impl.run prog t s).2.2 ++ s'.sp.invLog :=
  let h := (nested_rerun prog t s s' fin ds h0 hsw hfi hv hok hc hanti habs hfin hsup).1
  ⟨h.res, h.inv⟩

/-! ### non-vacuity: a subbuild that returns although the `build_file` it called raised (it caught the exception):
    in the second run nothing runs — the record of the subbuild is reused, the failure inside it re-enacted -/

def fRoot : Prog := .subbuild "g" .null .null (.buildFile ["x"] .hash "f" .null .null (.raise (.user 1)) (fun _ => .ret .null)) (fun _ => .ret .null)
def fOps : List Op := (Impl.run fRoot none fxS).2.2
def fS' : KSt := { sp := { fs := [], cacheFile := ["c"], dirSize := 4096, clock := 99 }, old := { buildName := "n", roots := fOps } }

theorem f_first : (Impl.run fRoot none fxS).2.2 =
      [.subbuild "g" .null .null [.buildFile ["x"] .hash "f" .null .null [] .null .null true false ""] .null false false] ∧
    (Impl.run fRoot none fxS).2.1.sp.fs.get ["x"] = none ∧ (Impl.run fRoot none fxS).2.1.sp.invLog.length = 2 := by
  have h : dirsToMake (visible fxS.sp) fxS.sp.cacheFile fxS.sp.inProg [] = .ok [] := by rw [dirsToMake]; simp
  simp [fRoot, Impl.run, bfSetup, fxS, FS.isDir, FS.get, lookupFile, lookupSub, CacheRec.getFile, CacheRec.getSub, registeredL,
    afterSetup, missStart, liftSp, sanitize, bfFinish, pendingFind, withSp, cmpBuilt, View.cmpResult, setupState, mkdirs,
    FS.isFile, FS.set, FS.erase, clearWay, subClaim, Impl.subStart, Spec.visible, rmEmpty] at h ⊢
  rw [h]
  simp [pendingFind, FS.set, FS.erase, FS.get, cmpBuilt, View.cmpResult, withSp, rmEmpty, mkdirs]

example : (Impl.run fRoot none fS').2.1.sp.invLog = [] ∧ (Impl.run fRoot none fxS).2.1.sp.invLog.length = 2 := by
  obtain ⟨hops, hfs, hlen⟩ := f_first
  have hkeep := run_keeps fRoot none fxS rfl rfl rfl
  have h := C05_nested_rerun fRoot none fxS fS' (Impl.run fRoot none fxS).2.1 4096 rfl
    ⟨⟨rfl, rfl, rfl, rfl, rfl, rfl, rfl, rfl, rfl, rfl⟩, fun q => rfl⟩
    ⟨rfl, (fun p hp => nomatch hp), (fun q _ => rfl), (fun p hp => nomatch hp)⟩
    (fun f _ => by simp [versionOk, fS', verOf, isEqual])
    (by rw [hops]; simp [noSFL, noSF])
    (by rw [hops]; intro o ho
        simp [registeredL, registered] at ho
        rcases ho with rfl | rfl
        · simp [cachedIn, argsRefl, fS', fOps, CacheRec.getFile, hops, registeredL, registered, Op.isFileAt, isEqual]
        · simp [cachedIn, argsRefl, fS', fOps, CacheRec.getSub, hops, registeredL, registered, Op.isSubWith, FB.heq, FB.heqL, subKey, toH, toHL, Num.eq])
    (by rw [hops]; simp [targetsDeepL, targetsDeep, Antichain])
    (by rw [hops]; intro p hp; simp [targetsDeepL, targetsDeep] at hp; subst hp; simp [fxS, FS.get])
    (FirstKeeps.refl _ hkeep.ff hkeep.fsb)
    (by
      rw [hops]; intro p hp; simp [targetsDeepL, targetsDeep] at hp; subst hp
      rw [hfs]; simp [fS', FS.get])
  refine ⟨?_, hlen⟩
  rw [h.2, hops]
  simp [rerunDeepL, rerunDeep, fS']

/-! ### … and a subbuild that raised after the `build_file` it called had succeeded: in the second run the subbuild's
    function runs again (one invocation), the nested `build_file` is served from its record -/

def gRoot : Prog := .subbuild "g" .null .null (.buildFile ["x"] .hash "f" .null .null exBody (fun _ => .raise (.user 2))) (fun _ => .ret .null)
def gOps : List Op := (Impl.run gRoot none fxS).2.2
def gS' : KSt := { sp := { fs := [], cacheFile := ["c"], dirSize := 4096, clock := 99 },
                   old := { buildName := "n", roots := gOps }, shelf := [(["x"], .file "o" 7)] }

theorem g_run : (Impl.run gRoot none fxS).2.2 =
      [.subbuild "g" .null .null [.buildFile ["x"] .hash "f" .null .null [] .null (.str "sha:o") false false "o"] .null true false] ∧
    (Impl.run gRoot none fxS).2.1.sp.fs.get ["x"] = some (.file "o" 7) ∧ (Impl.run gRoot none fxS).2.1.sp.invLog.length = 2 ∧
    (Impl.run gRoot none fxS).2.1.sp.claimedFiles = [["x"]] ∧ (Impl.run gRoot none fxS).2.1.sp.createdDirs = [] ∧
    (Impl.run gRoot none fxS).1 = .ok .null := by
  have h : dirsToMake (visible fxS.sp) fxS.sp.cacheFile fxS.sp.inProg [] = .ok [] := by rw [dirsToMake]; simp
  simp [gRoot, exBody, Impl.run, bfSetup, fxS, FS.isDir, FS.get, lookupFile, lookupSub, CacheRec.getFile, CacheRec.getSub, registeredL,
    afterSetup, missStart, liftSp, sanitize, bfFinish, pendingFind, withSp, cmpBuilt, View.cmpResult, setupState, mkdirs,
    FS.isFile, FS.set, FS.erase, clearWay, subClaim, Impl.subStart, Spec.visible] at h ⊢
  rw [h]
  simp [pendingFind, FS.set, FS.erase, FS.get, cmpBuilt, View.cmpResult, withSp]

theorem g_first : (Impl.run gRoot none fxS).2.2 =
      [.subbuild "g" .null .null [.buildFile ["x"] .hash "f" .null .null [] .null (.str "sha:o") false false "o"] .null true false] ∧
    (Impl.run gRoot none fxS).2.1.sp.fs.get ["x"] = some (.file "o" 7) ∧ (Impl.run gRoot none fxS).2.1.sp.invLog.length = 2 :=
  ⟨g_run.1, g_run.2.1, g_run.2.2.1⟩

example : (Impl.run gRoot none gS').2.1.sp.invLog = [⟨"g", none, .null, .null⟩] ∧ (Impl.run gRoot none fxS).2.1.sp.invLog.length = 2 := by
  obtain ⟨hops, hfs, hlen⟩ := g_first
  have hkeep := run_keeps gRoot none fxS rfl rfl rfl
  have h := C05_nested_rerun gRoot none fxS gS' (Impl.run gRoot none fxS).2.1 4096 rfl
    ⟨⟨rfl, rfl, rfl, rfl, rfl, rfl, rfl, rfl, rfl, rfl⟩, fun q => rfl⟩
    ⟨rfl, (fun p hp => nomatch hp), (fun q _ => rfl), (fun p hp => nomatch hp)⟩
    (fun f _ => by simp [versionOk, gS', verOf, isEqual])
    (by rw [hops]; simp [noSFL, noSF])
    (by rw [hops]; intro o ho
        simp [registeredL, registered] at ho
        rcases ho with rfl | rfl
        · simp [cachedIn, argsRefl, gS', gOps, CacheRec.getFile, hops, registeredL, registered, Op.isFileAt, isEqual]
        · simp [cachedIn, argsRefl, gS', gOps, CacheRec.getSub, hops, registeredL, registered, Op.isSubWith, FB.heq, FB.heqL, subKey, toH, toHL, Num.eq])
    (by rw [hops]; simp [targetsDeepL, targetsDeep, Antichain])
    (by rw [hops]; intro p hp; simp [targetsDeepL, targetsDeep] at hp; subst hp; simp [fxS, FS.get])
    (FirstKeeps.refl _ hkeep.ff hkeep.fsb)
    (by
      rw [hops]; intro p hp; simp [targetsDeepL, targetsDeep] at hp; subst hp
      rw [hfs]; simp [gS', FS.get])
  refine ⟨?_, hlen⟩
  rw [h.2, hops]
  simp [rerunDeepL, rerunDeep, gS']

end FB

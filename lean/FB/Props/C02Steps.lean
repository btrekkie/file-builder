/-
  C02 — why the bookkeeping of a build is `Undoable` at every moment: it is so when the build starts
  (`Undoable.start`), and each of the disk-changing steps of a build keeps it so —
    * making a directory that did not exist and noting it as created             (`Undoable.mkdir`)
    * moving a pre-build file that is in the way of a directory to the undo log  (`Undoable.moveAside`)
    * replacing a target: `back_up_and_remove` resp. `record_absent`, then the function writes the file
                                                                (`Undoable.overwrite`, `Undoable.writeNew`)
    * removing, after a failed call, the file the function had written          (`Undoable.dropOutput`)
    * removing directories                                        (`Undoable.rmEmpty`, `Undoable.eraseDir`)
    * the whole of `_make_dirs`, returning or failing part-way                   (`makeDirs_undoable`)
  so that `rollBack_restores_files` applies whenever the build fails (`undoable_rollback`).  The steps that only take
  entries away follow from `Undoable.shrink`; `moveAside` is `Undoable.log` then `shrink`, `overwrite` is `moveAside`
  then `Undoable.writeLogged`.  (The steps are the ones the unit models `FB.MakeDirs`, `FB.Backups` describe; that
  `FileBuilder` performs only such steps is what `rbcheck.py` observes on every real rollback by evaluating
  `Undoable`.)
-/
import FB.Props.C02Rollback
import FB.Props.C10MakeDirs
namespace FB
namespace Rollback
open FS Spec Backups BuildDirs

theorem Undoable.start (P0 : FS) (oldOutputs oldCreatedDirs : List Path) :
    Undoable P0 P0 { oldOutputs := oldOutputs, oldCreatedDirs := oldCreatedDirs } :=
  ⟨by simp, (fun x hx => nomatch hx), (fun p c m h => Or.inl h), (fun p c m h => Or.inl h), (fun p hp => nomatch hp),
   (fun d hd hd0 => by rw [hd] at hd0; cases hd0)⟩

/-- a directory that did not exist is made and noted -/
theorem Undoable.mkdir {P0 P : FS} {r : RB} (h : Undoable P0 P r) (d : Path) (hd : P.get d = none) (hne : d ≠ []) :
    Undoable P0 (P.set d .dir) { r with createdDirs := d :: r.createdDirs } := by
  refine ⟨h.saved_nodup, h.saved_pre, ?_, ?_, h.moved, ?_⟩
  · intro p c m hp
    rcases h.kept p c m hp with h1 | h1
    · left
      have : p ≠ d := fun e => by rw [e, hd] at h1; cases h1
      rw [get_set_ne _ _ _ _ this]; exact h1
    · exact Or.inr h1
  · intro p c m hp
    by_cases hpd : p = d
    · subst hpd; rw [get_set_self _ _ _ hne] at hp; cases hp
    · rw [get_set_ne _ _ _ _ hpd] at hp; exact h.fresh p c m hp
  · intro x hx hx0
    by_cases hxd : x = d
    · exact hxd ▸ List.mem_cons_self ..
    · exact List.mem_cons_of_mem _ (h.newdirs x ((isDir_congr (get_set_ne _ _ _ _ hxd)).symm.trans hx) hx0)

theorem Undoable.shrink {P0 P P' : FS} {r : RB} (h : Undoable P0 P r) (hsub : ∀ q e, P'.get q = some e → P.get q = some e)
    (hkeep : ∀ q c m, P0.get q = some (.file c m) → P.get q = some (.file c m) →
      P'.get q = some (.file c m) ∨ q ∈ r.bk.saved.map (·.1)) : Undoable P0 P' r :=
  ⟨h.saved_nodup, h.saved_pre, fun q c m hq => (h.kept q c m hq).elim (hkeep q c m hq) Or.inr,
    fun q c m hq => h.fresh q c m (hsub q _ hq), h.moved,
    fun d hd hd0 => h.newdirs d (isDir_iff.mpr (hsub d _ (isDir_iff.mp hd))) hd0⟩

/-- after a failed call the file its function had written is removed again -/
theorem Undoable.dropOutput {P0 P : FS} {r : RB} (h : Undoable P0 P r) (p : Path)
    (hsv : P0.isFile p = true → p ∈ r.bk.saved.map (·.1)) : Undoable P0 (P.erase p) r := by
  refine h.shrink (get_erase_some P p) (fun q c m hq0 hq => ?_)
  by_cases hqp : q = p
  · exact Or.inr (hqp ▸ hsv (hqp ▸ isFile_of_get hq0))
  · exact Or.inl ((get_erase_ne _ _ _ hqp).trans hq)

/-- removing directories (the unwinding after a failed call, `_make_room`, the clean-up of the previous build's empty
    directories) never endangers a file -/
theorem Undoable.rmEmpty {P0 P : FS} {r : RB} (h : Undoable P0 P r) (ds : List Path) : Undoable P0 (Spec.rmEmpty P ds) r :=
  h.shrink (fun _ _ => rmEmpty_some) (fun q c m _ hq => Or.inl (rmEmpty_file ds P q c m hq))

theorem Undoable.eraseDir {P0 P : FS} {r : RB} (h : Undoable P0 P r) (d : Path) (hd : P.get d = some .dir) :
    Undoable P0 (P.erase d) r := by
  refine h.shrink (get_erase_some P d) (fun q c m _ hq => Or.inl ?_)
  have hqd : q ≠ d := fun e => by rw [e, hd] at hq; cases hq
  exact (get_erase_ne _ _ _ hqd).trans hq

/-- the bookkeeping after a regular file in a directory position was moved to the undo log -/
def afterMoveAside (r : RB) (p : Path) (old : Entry) : RB := { r with bk := { r.bk with saved := r.bk.saved ++ [(p, old)] } }

theorem Undoable.log {P0 P : FS} {r : RB} (h : Undoable P0 P r) (p : Path) (c0 : String) (m0 : Nat)
    (hg : P.get p = some (.file c0 m0)) (hnew : p ∉ r.newOutputs) (hns : p ∉ r.bk.saved.map (·.1)) :
    Undoable P0 P (afterMoveAside r p (.file c0 m0)) := by
  have hp0 : P0.get p = some (.file c0 m0) :=
    (h.fresh p c0 m0 hg).elim id fun h1 => h1.elim (fun h1 => absurd h1 hns) (fun h1 => absurd h1.1 hnew)
  have hsv : ∀ q, q ∈ r.bk.saved.map (·.1) → q ∈ (r.bk.saved ++ [(p, Entry.file c0 m0)]).map (·.1) :=
    fun q hq => by rw [List.map_append]; exact List.mem_append_left _ hq
  refine ⟨?_, fun x hx => ?_, fun q c m hq => (h.kept q c m hq).imp_right (hsv q),
    fun q c m hq => (h.fresh q c m hq).imp_right (Or.imp_left (hsv q)), fun q hq hrem hq0 => hsv q (h.moved q hq hrem hq0),
    h.newdirs⟩
  · show ((r.bk.saved ++ [(p, Entry.file c0 m0)]).map (·.1)).Nodup
    rw [List.map_append]
    refine List.nodup_append.mpr ⟨h.saved_nodup, List.pairwise_singleton _ _, fun a ha b hb e => hns ?_⟩
    have hb' : b = p := List.mem_singleton.mp hb
    rw [← hb', ← e]; exact ha
  · rcases List.mem_append.mp hx with hx | hx
    · exact h.saved_pre x hx
    · cases List.mem_singleton.mp hx; exact ⟨hp0, c0, m0, rfl⟩

/-- a pre-build file that is in the way of a directory goes to the undo log -/
theorem Undoable.moveAside {P0 P : FS} {r : RB} (h : Undoable P0 P r) (p : Path) (c0 : String) (m0 : Nat)
    (hg : P.get p = some (.file c0 m0)) (hnew : p ∉ r.newOutputs) (hns : p ∉ r.bk.saved.map (·.1)) :
    Undoable P0 (P.erase p) (afterMoveAside r p (.file c0 m0)) := by
  refine (h.log p c0 m0 hg hnew hns).shrink (get_erase_some P p) (fun q c m _ hq => ?_)
  by_cases hqp : q = p
  · right
    show q ∈ (r.bk.saved ++ [(p, Entry.file c0 m0)]).map (·.1)
    rw [hqp, List.map_append]
    exact List.mem_append_right _ (List.mem_singleton_self p)
  · exact Or.inl ((get_erase_ne _ _ _ hqp).trans hq)

/-- the bookkeeping after `back_up_and_remove(p)` found a regular file and the function has written the target -/
def afterOverwrite (r : RB) (p : Path) (old : Entry) : RB :=
  { r with bk := { r.bk with saved := r.bk.saved ++ [(p, old)] }, newOutputs := p :: r.newOutputs }

/-- … after `record_absent(p)` (there was nothing to save) and the function has written the target -/
def afterWriteNew (r : RB) (p : Path) : RB :=
  { r with bk := Backups.recordAbsent r.bk p, newOutputs := p :: r.newOutputs }

theorem removable_afterOverwrite (r : RB) (p : Path) (old : Entry) (q : Path) :
    removable (afterOverwrite r p old) q = removable r q := rfl

theorem Undoable.writeLogged {P0 P : FS} {r : RB} (h : Undoable P0 P r) (p : Path) (c : String) (m : Nat)
    (hps : p ∈ r.bk.saved.map (·.1)) : Undoable P0 (P.set p (.file c m)) { r with newOutputs := p :: r.newOutputs } := by
  refine ⟨h.saved_nodup, h.saved_pre, fun q c' m' hq => ?_, fun q c' m' hq => ?_, fun q hq hrem hq0 => ?_, fun d hd hd0 => ?_⟩
  · by_cases hqp : q = p
    · exact Or.inr (hqp ▸ hps)
    · rw [get_set_ne _ _ _ _ hqp]; exact h.kept q c' m' hq
  · by_cases hqp : q = p
    · exact Or.inr (Or.inl (hqp ▸ hps))
    · rw [get_set_ne _ _ _ _ hqp] at hq
      exact (h.fresh q c' m' hq).imp_right (Or.imp_right (And.imp_left (List.mem_cons_of_mem _)))
  · rcases List.mem_cons.mp hq with rfl | hq'
    · exact hps
    · exact h.moved q hq' hrem hq0
  · refine h.newdirs d ?_ hd0
    by_cases hdp : d = p
    · by_cases hne : d = []
      · rw [hne, isDir_iff]; exact get_nil P
      · rw [hdp, isDir_iff, get_set_self _ _ _ (hdp ▸ hne)] at hd; cases hd
    · exact (isDir_congr (get_set_ne _ _ _ _ hdp)).symm.trans hd

/-- a target that holds a pre-build file is replaced: the file goes to the undo log first.  `back_up_and_remove`
    renames the old file away before the function writes, two operations on the tree, hence `(P.erase p).set p`;
    under `writeNew` there is nothing to move and the tree is `P.set p` -/
theorem Undoable.overwrite {P0 P : FS} {r : RB} (h : Undoable P0 P r) (p : Path) (c0 : String) (m0 : Nat) (c : String) (m : Nat)
    (hne : p ≠ []) (hg : P.get p = some (.file c0 m0)) (hnew : p ∉ r.newOutputs) (hns : p ∉ r.bk.saved.map (·.1)) :
    Undoable P0 ((P.erase p).set p (.file c m)) (afterOverwrite r p (.file c0 m0)) :=
  (h.moveAside p c0 m0 hg hnew hns).writeLogged p c m (by
    show p ∈ (r.bk.saved ++ [(p, Entry.file c0 m0)]).map (·.1)
    rw [List.map_append]; exact List.mem_append_right _ (List.mem_singleton_self p))

theorem wasAbsent_record (b : Backups.BK) (p q : Path) :
    Backups.wasAbsent (Backups.recordAbsent b p) q = (decide (q = p) || Backups.wasAbsent b q) := by
  unfold Backups.wasAbsent Backups.recordAbsent
  by_cases hc : b.absent.contains p = true
  · simp only [hc, if_true]
    by_cases hq : q = p
    · subst hq; simpa using hc
    · simp [hq]
  · simp only [hc, Bool.false_eq_true, if_false]
    by_cases hq : q = p
    · subst hq; simp
    · simp [hq]

theorem removable_afterWriteNew (r : RB) (p q : Path) :
    removable (afterWriteNew r p) q = (decide (q = p) || removable r q) := by
  unfold removable afterWriteNew
  rw [wasAbsent_record, Bool.or_left_comm]

/-- a target where nothing was is written: `record_absent` makes sure the rollback removes it -/
theorem Undoable.writeNew {P0 P : FS} {r : RB} (h : Undoable P0 P r) (p : Path) (c : String) (m : Nat)
    (hne : p ≠ []) (hg : P.get p = none) (hns : p ∉ r.bk.saved.map (·.1)) :
    Undoable P0 (P.set p (.file c m)) (afterWriteNew r p) := by
  have hp0 : P0.isFile p = false := by
    rw [isFile_false_iff]
    intro c' m' hg0
    rcases h.kept p c' m' hg0 with h1 | h1
    · rw [hg] at h1; cases h1
    · exact hns h1
  refine ⟨h.saved_nodup, h.saved_pre, fun q c' m' hq => ?_, fun q c' m' hq => ?_, fun q hq hr hq0 => ?_, fun d hd hd0 => ?_⟩
  · by_cases hqp : q = p
    · rw [hqp] at hq; rw [isFile_of_get hq] at hp0; cases hp0
    · rw [get_set_ne _ _ _ _ hqp]; exact h.kept q c' m' hq
  · by_cases hqp : q = p
    · refine Or.inr (Or.inr ⟨hqp ▸ List.mem_cons_self .., ?_⟩)
      rw [removable_afterWriteNew, decide_eq_true hqp, Bool.true_or]
    · rw [get_set_ne _ _ _ _ hqp] at hq
      refine (h.fresh q c' m' hq).imp_right (Or.imp_right fun h1 => ⟨List.mem_cons_of_mem _ h1.1, ?_⟩)
      rw [removable_afterWriteNew, h1.2, Bool.or_true]
  · by_cases hqp : q = p
    · rw [hqp, hp0] at hq0; cases hq0
    · rw [removable_afterWriteNew, decide_eq_false hqp, Bool.false_or] at hr
      exact h.moved q ((List.mem_cons.mp hq).resolve_left hqp) hr hq0
  · have hdp : d ≠ p := fun e => by rw [e, isDir_iff, get_set_self _ _ _ hne] at hd; cases hd
    exact h.newdirs d ((isDir_congr (get_set_ne _ _ _ _ hdp)).symm.trans hd) hd0

theorem Undoable.dirs_mono {P0 P : FS} {r : RB} (h : Undoable P0 P r) (cd : List Path) (hsub : ∀ d ∈ r.createdDirs, d ∈ cd) :
    Undoable P0 P { r with createdDirs := cd } :=
  ⟨h.saved_nodup, h.saved_pre, h.kept, h.fresh, h.moved, fun d hd hd0 => hsub d (h.newdirs d hd hd0)⟩

/-- the bookkeeping seen from inside `_make_dirs` -/
def rbOf (r : RB) (st : MakeDirs.St) : RB := { r with bk := st.bk, createdDirs := st.made ++ r.createdDirs }

/-- what holds between the steps of `_make_dirs`: the bookkeeping is `Undoable`, and the directories still to be made
    are distinct, not outputs of this build and not in the undo log -/
def DirsOK (P0 : FS) (r : RB) (l : List Path) (st : MakeDirs.St) : Prop :=
  Undoable P0 st.fs (rbOf r st) ∧ l.Nodup ∧ ∀ d ∈ l, d ∉ r.newOutputs ∧ d ∉ st.bk.saved.map (·.1)

theorem DirsOK.aside {P0 : FS} {r : RB} {d : Path} {rest : List Path} {st : MakeDirs.St} (hfile : st.fs.isFile d = true)
    (h : DirsOK P0 r (d :: rest) st) :
    DirsOK P0 r rest { st with fs := (Backups.backUpAndRemove st.fs st.bk d).1, bk := (Backups.backUpAndRemove st.fs st.bk d).2.1 } := by
  obtain ⟨hu, hnd, hcond⟩ := h
  obtain ⟨c, m, hg⟩ := isFile_iff.mp hfile
  obtain ⟨hdnew, hdsv⟩ := hcond d (List.mem_cons_self ..)
  rw [Backups.backUp_of_file st.bk hg]
  refine ⟨hu.moveAside d c m hg hdnew hdsv, (List.nodup_cons.mp hnd).2, fun x hx => ?_⟩
  obtain ⟨g1, g2⟩ := hcond x (List.mem_cons_of_mem _ hx)
  refine ⟨g1, fun hm => ?_⟩
  rw [List.map_append, List.mem_append] at hm
  rcases hm with hm | hm
  · exact g2 hm
  · have e : x = d := List.mem_singleton.mp hm
    exact (List.nodup_cons.mp hnd).1 (e ▸ hx)

theorem DirsOK.mkdir {P0 : FS} {r : RB} {d : Path} {rest : List Path} {st : MakeDirs.St} {fs' : FS}
    (hm : st.fs.mkdir d = .ok fs') (h : DirsOK P0 r rest st) :
    DirsOK P0 r rest { st with fs := fs', made := st.made ++ [d] } := by
  obtain ⟨hdne, -, habs, rfl⟩ := mkdir_ok hm
  refine ⟨(h.1.mkdir d habs hdne).dirs_mono ((st.made ++ [d]) ++ r.createdDirs) (fun x hx => ?_), h.2⟩
  rcases List.mem_cons.mp hx with rfl | hx
  · exact List.mem_append_left _ (List.mem_append_right _ (List.mem_singleton_self _))
  · rcases List.mem_append.mp hx with hx | hx
    · exact List.mem_append_left _ (List.mem_append_left _ hx)
    · exact List.mem_append_right _ hx

/-- **`_make_dirs` keeps the bookkeeping `Undoable`**, whether it returns or fails part-way -/
theorem makeDirs_undoable (oldCreated : List Path) (failAt : Option Nat) (P0 : FS) (r : RB) :
    ∀ (dirs : List Path) (i : Nat) (st st' : MakeDirs.St), dirs.Nodup →
      (∀ d ∈ dirs, d ∉ r.newOutputs ∧ d ∉ st.bk.saved.map (·.1)) →
      Undoable P0 st.fs (rbOf r st) →
      (MakeDirs.loop oldCreated failAt dirs i st = .ok st' ∨ MakeDirs.loop oldCreated failAt dirs i st = .error st') →
      Undoable P0 st'.fs (rbOf r st') := by
  intro dirs i st st' hnd hcond h hr
  have := MakeDirs.loop_run oldCreated failAt (DirsOK P0 r) (fun st => Undoable P0 st.fs (rbOf r st))
    (fun _ _ _ hfile hst => hst.aside hfile)
    (fun d _ _ hst => ⟨hst.1, (List.nodup_cons.mp hst.2.1).2, fun x hx => hst.2.2 x (List.mem_cons_of_mem _ hx)⟩)
    (fun _ _ _ _ hm hst => hst.mkdir hm) (fun _ st hst => hst.1.rmEmpty st.made) dirs i st st' ⟨h, hnd, hcond⟩
  exact hr.elim (fun e => (this.1 e).1) this.2

/-- **whenever a build of such steps fails, rollback restores the regular files** -/
theorem undoable_rollback {P0 P : FS} {r : RB} (hwf0 : TreeWF P0) (h : Undoable P0 P r) :
    ∀ p c m, P0.get p = some (.file c m) ↔ (rollBack P r).get p = some (.file c m) :=
  fun p c m => ⟨(rollBack_restores_files P0 P r hwf0 h).1 p c m, (rollBack_restores_files P0 P r hwf0 h).2.1 p c m⟩

end Rollback
end FB

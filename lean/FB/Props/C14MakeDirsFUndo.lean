/-
  C14 — `_make_dirs` under a fault at any of its mutating calls keeps the bookkeeping `Undoable`
  (`makeDirsF_undoable`), so a rollback after it restores the pre-build regular files (`C14_makeDirs_fault_rollback`).
-/
import FB.Props.C02Steps
import FB.Props.C14MakeDirsF
namespace FB
namespace Rollback
open FS Spec Backups BuildDirs

/-- **`_make_dirs` keeps the bookkeeping `Undoable`**, whether it returns or fails at a `mkdir` or at a rename -/
theorem makeDirsF_undoable (oldCreated : List Path) (failAt : Option Nat) (P0 : FS) (r : RB) :
    ∀ (dirs : List Path) (i : Nat) (st : MakeDirs.St) (out : MakeDirs.St × Nat), dirs.Nodup →
      (∀ d ∈ dirs, d ∉ r.newOutputs ∧ d ∉ st.bk.saved.map (·.1)) →
      Undoable P0 st.fs (rbOf r st) →
      (MakeDirsF.loop oldCreated failAt dirs i st = .ok out ∨ MakeDirsF.loop oldCreated failAt dirs i st = .error out) →
      Undoable P0 out.1.fs (rbOf r out.1) := by
  intro dirs i st out hnd hcond h hr
  have := MakeDirsF.loop_run oldCreated failAt (DirsOK P0 r) (fun st => Undoable P0 st.fs (rbOf r st))
    (fun _ _ _ hfile hst => hst.aside hfile)
    (fun d _ _ hst => ⟨hst.1, (List.nodup_cons.mp hst.2.1).2, fun x hx => hst.2.2 x (List.mem_cons_of_mem _ hx)⟩)
    (fun _ _ _ _ hm hst => hst.mkdir hm) (fun _ st hst => hst.1.rmEmpty st.made) dirs i st out ⟨h, hnd, hcond⟩
  exact hr.elim (fun e => (this.1 e).1) this.2

/-- **C14 for `_make_dirs`, end to end**: an `OSError` at any `mkdir` or rename of `_make_dirs` (or none), then the
    rollback: exactly the regular files of the pre-build tree are back - bytes and times -, no new directory remains
    (up to the recorded directories of the previous build) -/
theorem C14_makeDirs_fault_rollback (oldCreated : List Path) (failAt : Option Nat) (P0 : FS) (r : RB) (hwf0 : TreeWF P0)
    (dirs : List Path) (i : Nat) (st : MakeDirs.St) (out : MakeDirs.St × Nat) (hnd : dirs.Nodup)
    (hcond : ∀ d ∈ dirs, d ∉ r.newOutputs ∧ d ∉ st.bk.saved.map (·.1))
    (h : Undoable P0 st.fs (rbOf r st))
    (hr : MakeDirsF.loop oldCreated failAt dirs i st = .ok out ∨ MakeDirsF.loop oldCreated failAt dirs i st = .error out) :
    (∀ p c m, P0.get p = some (.file c m) → (rollBack out.1.fs (rbOf r out.1)).get p = some (.file c m)) ∧
    (∀ p c m, (rollBack out.1.fs (rbOf r out.1)).get p = some (.file c m) → P0.get p = some (.file c m)) ∧
    (∀ d, (rollBack out.1.fs (rbOf r out.1)).isDir d = true → P0.isDir d = true ∨ d ∈ r.oldCreatedDirs) :=
  rollBack_restores_files P0 out.1.fs (rbOf r out.1) hwf0
    (makeDirsF_undoable oldCreated failAt P0 r dirs i st out hnd hcond h hr)

/-- the premises are met (non-vacuity): `_make_dirs` as the first disk-changing step of a build on any well-formed tree -/
theorem C14_makeDirs_fault_rollback_first_step (oldCreated : List Path) (failAt : Option Nat) (P0 : FS) (hwf0 : TreeWF P0)
    (oldOutputs oldCreatedDirs dirs : List Path) (hnd : dirs.Nodup) (out : MakeDirs.St × Nat)
    (hr : MakeDirsF.makeDirs P0 {} dirs oldCreated failAt = .ok out ∨ MakeDirsF.makeDirs P0 {} dirs oldCreated failAt = .error out) :
    ∀ p c m, P0.get p = some (.file c m) →
      (rollBack out.1.fs (rbOf { oldOutputs := oldOutputs, oldCreatedDirs := oldCreatedDirs } out.1)).get p = some (.file c m) :=
  (C14_makeDirs_fault_rollback oldCreated failAt P0 { oldOutputs := oldOutputs, oldCreatedDirs := oldCreatedDirs } hwf0 dirs 0
    { fs := P0, bk := {} } out hnd (fun _ _ => ⟨(fun h => nomatch h), (fun h => nomatch h)⟩)
    (Undoable.start P0 oldOutputs oldCreatedDirs) hr).1

end Rollback
end FB

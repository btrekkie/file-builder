/-
  C03/C10 — `_make_room` never destroys anything: whatever it removes from the tree is a regular file that the
  virtual tree does not know and that is now in the undo log, or a directory that the virtual tree does not know
  (or the directory it was asked to clear) — in every outcome, also when it gives up with `IsADirectoryError` half-way.
  `FB.MakeRoom.makeRoom` is the fault-free case of `FB.MakeRoomF.makeRoom`, where this is proved.
-/
import FB.Props.C14MakeRoomF
namespace FB
namespace MakeRoom
open FS

theorem outcome_none (vd vf : Path → Bool) (fuel : Nat) (st st' : St) (d : Path)
    (h : makeRoom vd vf fuel st d = .ok st' ∨ makeRoom vd vf fuel st d = .error st') :
    ∃ c', c'.st = st' ∧ (MakeRoomF.makeRoom vd vf none fuel { st := st } d = .ok c' ∨
      MakeRoomF.makeRoom vd vf none fuel { st := st } d = .error c') := by
  rw [← MakeRoomF.makeRoomF_none vd vf fuel { st := st } d] at h
  cases hr : MakeRoomF.makeRoom vd vf none fuel { st := st } d with
  | ok c' =>
    rw [hr] at h
    exact ⟨c', h.elim (fun e => Except.ok.inj e) nofun, Or.inl rfl⟩
  | error c' =>
    rw [hr] at h
    exact ⟨c', h.elim nofun (fun e => Except.error.inj e), Or.inr rfl⟩

/-- **`_make_room` only moves unknown files to the log and removes unknown directories** -/
theorem makeRoom_moved (vd vf : Path → Bool) : ∀ (fuel : Nat) (st : St) (d : Path), ∀ st',
    (makeRoom vd vf fuel st d = .ok st' ∨ makeRoom vd vf fuel st d = .error st') → Moved vd vf d st st' := by
  intro fuel st d st' h
  obtain ⟨c', rfl, hc⟩ := outcome_none vd vf fuel st st' d h
  exact MakeRoomF.makeRoomF_moved vd vf none fuel { st := st } d c' hc

/-- in particular: a regular file or directory that exists in the virtual tree is never touched -/
theorem makeRoom_keeps_virtual (vd vf : Path → Bool) (fuel : Nat) (st : St) (d : Path) (st' : St)
    (h : makeRoom vd vf fuel st d = .ok st' ∨ makeRoom vd vf fuel st d = .error st') (q : Path) (hq : q ≠ d)
    (hv : (vf q = true ∧ st.fs.isFile q = true) ∨ (vd q = true ∧ st.fs.isDir q = true)) : st'.fs.get q = st.fs.get q :=
  (makeRoom_moved vd vf fuel st d st' h).keeps_virtual q hq hv

end MakeRoom
end FB

/-
  C09 — the arbitration of concurrently created directories, for arbitrary paths and any number of threads, proved
  over the unit model of `build_dirs.py` (which the harness ties call by call to the real class): whichever way the
  `is_dir` / `mkdir` / `started_building_file` steps of the threads interleave, the directories recorded as created
  are exactly the new ones.  (`FB.Conc.P2.arbitration_correct` is the one-directory abstraction of this.)
  This is not the case `fails = fun _ => false` of `C09DirsF`: that development needs the outputs pairwise unrelated
  (for the invariant of `created_files.py`); here the paths are arbitrary.
-/
import FB.ConcDirs
import FB.Props.BuildDirsStarted
namespace FB
namespace ConcDirs
open BuildDirs

/-- thread `i` has made `d` -/
def Made (s : St) (i : Nat) (d : Path) : Prop :=
  (∃ j, s.pc i = .making j ∧ d ∈ (s.cds i).take j) ∨ (s.pc i = .registered ∧ d ∈ s.cds i)

/-- `Made`, as a property of where the thread is and of its list -/
def MadeAt (pc : PC) (cds : List Path) (d : Path) : Prop :=
  (∃ j, pc = .making j ∧ d ∈ cds.take j) ∨ (pc = .registered ∧ d ∈ cds)

theorem Made.congr {s s' : St} {k : Nat} {d : Path} (hpc : s'.pc k = s.pc k) (hc : s'.cds k = s.cds k) :
    Made s' k d ↔ Made s k d := by
  unfold Made; rw [hpc, hc]

/-- the invariant of every interleaving, from `dirs0` on disk and an empty `BuildDirs` -/
structure J (p : Nat → Path) (dirs0 : List Path) (s : St) : Prop where
  mono : ∀ d ∈ dirs0, d ∈ s.dirs
  /-- every new directory on disk was made by some thread -/
  src : ∀ d ∈ s.dirs, d ∉ dirs0 → ∃ i, Made s i d
  madeIn : ∀ i d, Made s i d → d ∈ s.dirs
  look : ∀ i cur acc, s.pc i = .looking cur acc → cur <+: (p i).dropLast ∧ ∀ d ∈ acc, d <+: (p i).dropLast ∧ d ∉ dirs0
  cdsOK : ∀ i, (∀ cur acc, s.pc i ≠ .looking cur acc) → ∀ d ∈ s.cds i, d <+: (p i).dropLast ∧ d ∉ dirs0
  /-- a registered thread has all it made recorded … -/
  recd : ∀ i, s.pc i = .registered → ∀ d ∈ s.cds i, d ∈ s.b.created
  /-- … and nothing else is recorded -/
  csrc : ∀ d ∈ s.b.created, ∃ i, s.pc i = .registered ∧ d ∈ s.cds i
  err : s.b.errorCreated = []
  closed : CountsClosed s.b

theorem j_init (p : Nat → Path) (dirs0 : List Path) : J p dirs0 (init p dirs0) := by
  refine ⟨fun d hd => hd, fun d hd hn => absurd hd hn, ?_, ?_, ?_, ?_, ?_, rfl, ?_⟩
  · intro i d h
    rcases h with ⟨j, h, _⟩ | ⟨h, _⟩ <;> simp [init] at h
  · intro i cur acc h
    simp only [init, PC.looking.injEq] at h
    obtain ⟨h1, h2⟩ := h
    subst h1 h2
    exact ⟨List.prefix_refl _, fun d hd => by cases hd⟩
  · intro i _ d hd; simp [init] at hd
  · intro i h; simp [init] at h
  · intro d hd; simp [init] at hd
  · intro d hd; simp [init, hasCount] at hd

/-- what `J` says of one thread, given where it is (`pc`) and its list (`cds`) -/
structure ThreadOK (p : Nat → Path) (dirs0 dirs created : List Path) (i : Nat) (pc : PC) (cds : List Path) : Prop where
  made : ∀ d, MadeAt pc cds d → d ∈ dirs
  look : ∀ cur acc, pc = .looking cur acc → cur <+: (p i).dropLast ∧ ∀ d ∈ acc, d <+: (p i).dropLast ∧ d ∉ dirs0
  cdsOK : (∀ cur acc, pc ≠ .looking cur acc) → ∀ d ∈ cds, d <+: (p i).dropLast ∧ d ∉ dirs0
  recd : pc = .registered → ∀ d ∈ cds, d ∈ created

/-- what a step of thread `i` leaves alone (the other threads, the directories there are, what is recorded) and
    where it takes thread `i` -/
structure Frame (s s' : St) (i : Nat) (pc' : PC) (cds' : List Path) : Prop where
  pc : ∀ k, k ≠ i → s'.pc k = s.pc k
  cds : ∀ k, k ≠ i → s'.cds k = s.cds k
  dirs : ∀ d ∈ s.dirs, d ∈ s'.dirs
  created : ∀ d ∈ s.b.created, d ∈ s'.b.created
  pci : s'.pc i = pc'
  cdsi : s'.cds i = cds'

theorem J.step {p : Nat → Path} {dirs0 : List Path} {s s' : St} {i : Nat} {pc' : PC} {cds' : List Path}
    (h : J p dirs0 s) (f : Frame s s' i pc' cds') (ht : ThreadOK p dirs0 s'.dirs s'.b.created i pc' cds')
    (hsrc : ∀ d ∈ s'.dirs, d ∉ dirs0 → ∃ k, Made s' k d)
    (hcsrc : ∀ d ∈ s'.b.created, ∃ k, s'.pc k = .registered ∧ d ∈ s'.cds k)
    (herr : s'.b.errorCreated = []) (hcl : CountsClosed s'.b) : J p dirs0 s' := by
  have hk : ∀ k, ThreadOK p dirs0 s'.dirs s'.b.created k (s'.pc k) (s'.cds k) := by
    intro k
    by_cases hki : k = i
    · subst hki; rw [f.pci, f.cdsi]; exact ht
    · rw [f.pc k hki, f.cds k hki]
      exact ⟨fun d hm => f.dirs d (h.madeIn k d hm), h.look k, h.cdsOK k, fun e d hd => f.created d (h.recd k e d hd)⟩
  exact ⟨fun d hd => f.dirs d (h.mono d hd), hsrc, fun k => (hk k).made, fun k => (hk k).look, fun k => (hk k).cdsOK,
    fun k => (hk k).recd, hcsrc, herr, hcl⟩

theorem Frame.made {s s' : St} {i : Nat} {pc' : PC} {cds' : List Path} (f : Frame s s' i pc' cds') {d : Path}
    (hi : Made s i d → MadeAt pc' cds' d)
    (h : ∃ k, Made s k d) : ∃ k, Made s' k d := by
  obtain ⟨k, hk⟩ := h
  by_cases hki : k = i
  · subst hki; exact ⟨k, by show MadeAt _ _ d; rw [f.pci, f.cdsi]; exact hi hk⟩
  · exact ⟨k, (Made.congr (f.pc k hki) (f.cds k hki)).mpr hk⟩

theorem Frame.csrc {s s' : St} {i : Nat} {pc' : PC} {cds' : List Path} (f : Frame s s' i pc' cds') {d : Path}
    (hi : s.pc i = .registered → pc' = .registered ∧ cds' = s.cds i)
    (h : ∃ k, s.pc k = .registered ∧ d ∈ s.cds k) : ∃ k, s'.pc k = .registered ∧ d ∈ s'.cds k := by
  obtain ⟨k, hk, hd⟩ := h
  by_cases hki : k = i
  · subst hki; exact ⟨k, by rw [f.pci]; exact (hi hk).1, by rw [f.cdsi, (hi hk).2]; exact hd⟩
  · exact ⟨k, by rw [f.pc k hki]; exact hk, by rw [f.cds k hki]; exact hd⟩

/-- a step of thread `i` that does not touch `b`: the walk, a `mkdir` -/
theorem J.quiet {p : Nat → Path} {dirs0 : List Path} {s s' : St} {i : Nat} {pc' : PC} {cds' : List Path}
    (h : J p dirs0 s) (f : Frame s s' i pc' cds') (hb : s'.b = s.b) (hnr : s.pc i ≠ .registered)
    (ht : ThreadOK p dirs0 s'.dirs s'.b.created i pc' cds')
    (hnew : ∀ d ∈ s'.dirs, d ∈ s.dirs ∨ ∃ j, pc' = .making j ∧ d ∈ cds'.take j)
    (hkeep : ∀ j d, s.pc i = .making j → d ∈ (s.cds i).take j → ∃ j', pc' = .making j' ∧ d ∈ cds'.take j') :
    J p dirs0 s' := by
  refine h.step f ht (fun d hd hn => ?_) (fun d hd => ?_) (by rw [hb]; exact h.err) (by rw [hb]; exact h.closed)
  · rcases hnew d hd with hd | hm
    · refine f.made (fun hm => ?_) (h.src d hd hn)
      rcases hm with ⟨j, hj, hdj⟩ | ⟨hj, _⟩
      · exact Or.inl (hkeep j d hj hdj)
      · exact absurd hj hnr
    · exact ⟨i, by show MadeAt _ _ d; rw [f.pci, f.cdsi]; exact Or.inl hm⟩
  · rw [hb] at hd
    exact f.csrc (fun e => absurd e hnr) (h.csrc d hd)

theorem j_step (p : Nat → Path) (hp : ∀ i, p i ≠ []) (dirs0 : List Path) (s : St) (i : Nat) (h : J p dirs0 s) :
    J p dirs0 (step p s i) := by
  unfold step
  cases hpc : s.pc i with
  | looking cur acc =>
    simp only
    obtain ⟨hl1, hl2⟩ := h.look i cur acc hpc
    by_cases hcond : (s.dirs.contains cur || decide (cur = [])) = true
    · -- the walk ends: the thread's list is fixed
      rw [if_pos hcond]
      refine h.quiet ⟨fun k hk => if_neg hk, fun k hk => if_neg hk, fun d hd => hd, fun d hd => hd, if_pos rfl,
        if_pos rfl⟩ rfl (by rw [hpc]; nofun) ⟨?_, nofun, fun _ => hl2, nofun⟩ (fun d hd => Or.inl hd)
        (fun j d hj => by rw [hpc] at hj; cases hj)
      rintro d (⟨j, hj, hd⟩ | ⟨hj, _⟩)
      · cases hj; cases hd
      · cases hj
    · -- one more missing directory
      rw [if_neg hcond]
      simp only [Bool.or_eq_true, decide_eq_true_eq, not_or] at hcond
      have hcur : cur ∉ s.dirs := by simpa using hcond.1
      refine h.quiet ⟨fun k hk => if_neg hk, fun _ _ => rfl, fun d hd => hd, fun d hd => hd, if_pos rfl, rfl⟩ rfl
        (by rw [hpc]; nofun) ⟨?_, ?_, fun hk => absurd rfl (hk _ _), nofun⟩ (fun d hd => Or.inl hd)
        (fun j d hj => by rw [hpc] at hj; cases hj)
      · rintro d (⟨j, hj, _⟩ | ⟨hj, _⟩) <;> cases hj
      · intro c a e
        cases e
        refine ⟨(List.dropLast_prefix cur).trans hl1, fun d hd => ?_⟩
        rcases List.mem_cons.mp hd with rfl | hd
        · exact ⟨hl1, fun hh => hcur (h.mono _ hh)⟩
        · exact hl2 d hd
  | making j =>
    simp only
    have hnr : s.pc i ≠ .registered := by rw [hpc]; nofun
    have hcds := h.cdsOK i (fun c a => by rw [hpc]; nofun)
    cases hget : (s.cds i)[j]? with
    | some d =>
      simp only
      refine h.quiet ⟨fun k hk => if_neg hk, fun _ _ => rfl, fun x hx => (mem_add _ _ _).mpr (Or.inr hx),
        fun x hx => hx, if_pos rfl, rfl⟩ rfl hnr ⟨?_, nofun, fun _ => hcds, nofun⟩ ?_ ?_
      · rintro x (⟨j', hj, hx⟩ | ⟨hj, _⟩)
        · cases hj
          rw [List.take_add_one, hget] at hx
          rcases List.mem_append.mp hx with hx | hx
          · exact (mem_add _ _ _).mpr (Or.inr (h.madeIn i x (Or.inl ⟨j, hpc, hx⟩)))
          · exact (mem_add _ _ _).mpr (Or.inl (by simpa using hx))
        · cases hj
      · intro x hx
        rcases (mem_add _ _ _).mp hx with rfl | hx
        · exact Or.inr ⟨j + 1, rfl, mem_take_succ_of_getElem? hget⟩
        · exact Or.inl hx
      · intro j' x hj hx
        rw [hpc] at hj; cases hj
        exact ⟨j + 1, rfl, List.take_subset_take_left _ (Nat.le_succ _) hx⟩
    | none =>
      simp only
      have hall : (s.cds i).take j = s.cds i := List.take_of_length_le (List.getElem?_eq_none_iff.mp hget)
      have post := started_post s.b (p i) (s.cds i) h.err h.closed
      have f : Frame s { s with b := (started s.b (p i) (s.cds i)).1,
                                pc := fun k => if k = i then .registered else s.pc k } i .registered (s.cds i) :=
        ⟨fun k hk => if_neg hk, fun _ _ => rfl, fun x hx => hx, post.sub, if_pos rfl, rfl⟩
      refine h.step f ⟨?_, nofun, fun _ => hcds, fun _ x hx => post.reg x hx (hcds x hx).1 (hp i)⟩
        (fun x hx hn => f.made (fun hm => ?_) (h.src x hx hn)) (fun x hx => ?_) post.err post.closed
      · rintro x (⟨j', hj, _⟩ | ⟨_, hx⟩)
        · cases hj
        · exact h.madeIn i x (Or.inl ⟨j, hpc, by rw [hall]; exact hx⟩)
      · rcases hm with ⟨j', hj, hx'⟩ | ⟨hj, _⟩
        · rw [hpc] at hj; cases hj
          exact Or.inr ⟨rfl, by rw [← hall]; exact hx'⟩
        · exact absurd hj hnr
      · rcases post.src x hx with hx | hx
        · exact f.csrc (fun e => absurd e hnr) (h.csrc x hx)
        · exact ⟨i, if_pos rfl, hx⟩
  | registered => exact h

theorem j_run (p : Nat → Path) (hp : ∀ i, p i ≠ []) (dirs0 : List Path) (sched : List Nat) (s : St) (h : J p dirs0 s) :
    J p dirs0 (run p s sched) := by
  induction sched generalizing s with
  | nil => exact h
  | cons i r ih => exact ih _ (j_step p hp dirs0 s i h)

/-- at every moment, what is recorded exists and is new -/
theorem created_sound (p : Nat → Path) (hp : ∀ i, p i ≠ []) (dirs0 : List Path) (sched : List Nat) (d : Path)
    (hd : d ∈ (run p (init p dirs0) sched).b.created) :
    d ∈ (run p (init p dirs0) sched).dirs ∧ d ∉ dirs0 := by
  have h := j_run p hp dirs0 sched _ (j_init p dirs0)
  obtain ⟨i, hi, hdi⟩ := h.csrc d hd
  exact ⟨h.madeIn i d (Or.inr ⟨hi, hdi⟩), (h.cdsOK i (fun c a => by rw [hi]; simp) d hdi).2⟩

/-- **C09, directory arbitration for arbitrary paths**: any number of threads build files at arbitrary paths below
    a tree whose directories are `dirs0`; under every interleaving of their `is_dir` / `mkdir` /
    `started_building_file` steps, once every thread that began is through, the directories recorded as created by
    the build (`created_dirs()`, what `clean` removes and a rollback undoes) are exactly the directories that exist
    now and did not exist before — the same as for every sequential order. -/
theorem created_iff_new (p : Nat → Path) (hp : ∀ i, p i ≠ []) (dirs0 : List Path) (sched : List Nat)
    (hdone : ∀ i, (run p (init p dirs0) sched).pc i = .registered ∨ ∃ c a, (run p (init p dirs0) sched).pc i = .looking c a)
    (d : Path) :
    d ∈ (run p (init p dirs0) sched).b.created ↔ d ∈ (run p (init p dirs0) sched).dirs ∧ d ∉ dirs0 := by
  have h := j_run p hp dirs0 sched _ (j_init p dirs0)
  refine ⟨created_sound p hp dirs0 sched d, ?_⟩
  · intro ⟨hd, hn⟩
    obtain ⟨i, hm⟩ := h.src d hd hn
    rcases hm with ⟨j, hj, _⟩ | ⟨hr, hdi⟩
    · rcases hdone i with e | ⟨c, a, e⟩ <;> rw [hj] at e <;> cases e
    · exact h.recd i hr d hdi

/-! non-vacuity: the interleaving on which the original code lost the directory (D7) — thread 0 makes `a`,
    thread 1 sees it, registers first; thread 0 registers afterwards.  All hypotheses hold and `a` is recorded. -/

def exP : Nat → Path := fun i => if i = 0 then ["a", "x"] else if i = 1 then ["a", "y"] else ["z"]

theorem ex_created : (run exP (init exP []) [0, 0, 0, 1, 1, 0]).b.created = [["a"]] := by
  decide +kernel

theorem step_pc_other (p : Nat → Path) (s : St) {i k : Nat} (h : k ≠ i) : (step p s i).pc k = s.pc k := by
  unfold step
  cases s.pc i with
  | looking cur acc =>
    dsimp only
    by_cases hc : (s.dirs.contains cur || decide (cur = [])) = true
    · rw [if_pos hc]; exact if_neg h
    · rw [if_neg hc]; exact if_neg h
  | making j =>
    dsimp only
    cases (s.cds i)[j]? <;> exact if_neg h
  | registered => rfl

theorem run_pc_other (p : Nat → Path) (sched : List Nat) (s : St) {k : Nat} (h : k ∉ sched) :
    (run p s sched).pc k = s.pc k := by
  induction sched generalizing s with
  | nil => rfl
  | cons i r ih =>
    rw [List.mem_cons, not_or] at h
    exact (ih _ h.2).trans (step_pc_other p s h.1)

theorem ex_done (i : Nat) : (run exP (init exP []) [0, 0, 0, 1, 1, 0]).pc i = .registered ∨
    ∃ c a, (run exP (init exP []) [0, 0, 0, 1, 1, 0]).pc i = .looking c a := by
  by_cases hi : i ∈ [0, 0, 0, 1, 1, 0]
  · have h01 : i = 0 ∨ i = 1 := by simp at hi; omega
    have h : (run exP (init exP []) [0, 0, 0, 1, 1, 0]).pc 0 = .registered ∧
        (run exP (init exP []) [0, 0, 0, 1, 1, 0]).pc 1 = .registered := by decide +kernel
    rcases h01 with rfl | rfl
    · exact Or.inl h.1
    · exact Or.inl h.2
  · exact Or.inr ⟨_, _, run_pc_other _ _ _ hi⟩

example : ["a"] ∈ (run exP (init exP []) [0, 0, 0, 1, 1, 0]).b.created ↔
    ["a"] ∈ (run exP (init exP []) [0, 0, 0, 1, 1, 0]).dirs ∧ ["a"] ∉ ([] : List Path) :=
  created_iff_new exP (fun i => by unfold exP; split <;> [simp; (split <;> simp)]) [] _ ex_done _

end ConcDirs
end FB

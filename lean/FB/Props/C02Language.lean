/-
  C02 — the step lemmas of `C02Steps` as one closure theorem: the disk-changing steps of a build
  form a small language (`Steps`); every state reachable by it is `Undoable` (`steps_undoable`), hence `_roll_back`
  restores the regular files the build found (`steps_rollback`).  Which real operation is which step is what the
  ties check (`rbcheck` evaluates `Undoable` on every real rollback the harness provokes; `mdcheck`, `mrcheck`,
  `bkcheck` tie `_make_dirs`, `_make_room`, `FileBackups` to the models these steps are taken from).
-/
import FB.Props.C02Steps
import FB.Props.C14PrepareF
namespace FB
namespace Rollback
open FS Spec Backups BuildDirs

/-- **the disk-changing steps of a build**, as a language: what `_make_dirs`, `_make_room`, `back_up_and_remove`,
    the user functions' writes, the clean-up after a failed call, the unwinding of directories - and the whole set-up of a
    `build_file` under an injected fault - do to the tree `P`
    and to the undo bookkeeping `r`, from the tree `P0` the build found -/
inductive Steps (P0 : FS) (oldOutputs oldCreatedDirs : List Path) : FS → RB → Prop
  | start : Steps P0 oldOutputs oldCreatedDirs P0 { oldOutputs := oldOutputs, oldCreatedDirs := oldCreatedDirs }
  | mkdir (P r d) : Steps P0 oldOutputs oldCreatedDirs P r → P.get d = none → d ≠ [] →
      Steps P0 oldOutputs oldCreatedDirs (P.set d .dir) { r with createdDirs := d :: r.createdDirs }
  | moveAside (P r p c0 m0) : Steps P0 oldOutputs oldCreatedDirs P r → P.get p = some (.file c0 m0) → p ∉ r.newOutputs →
      p ∉ r.bk.saved.map (·.1) → Steps P0 oldOutputs oldCreatedDirs (P.erase p) (afterMoveAside r p (.file c0 m0))
  | overwrite (P r p c0 m0 c m) : Steps P0 oldOutputs oldCreatedDirs P r → p ≠ [] → P.get p = some (.file c0 m0) →
      p ∉ r.newOutputs → p ∉ r.bk.saved.map (·.1) →
      Steps P0 oldOutputs oldCreatedDirs ((P.erase p).set p (.file c m)) (afterOverwrite r p (.file c0 m0))
  | writeNew (P r p c m) : Steps P0 oldOutputs oldCreatedDirs P r → p ≠ [] → P.get p = none → p ∉ r.bk.saved.map (·.1) →
      Steps P0 oldOutputs oldCreatedDirs (P.set p (.file c m)) (afterWriteNew r p)
  | dropOutput (P r p) : Steps P0 oldOutputs oldCreatedDirs P r → (P0.isFile p = true → p ∈ r.bk.saved.map (·.1)) →
      Steps P0 oldOutputs oldCreatedDirs (P.erase p) r
  | rmEmpty (P r ds) : Steps P0 oldOutputs oldCreatedDirs P r → Steps P0 oldOutputs oldCreatedDirs (Spec.rmEmpty P ds) r
  | eraseDir (P r d) : Steps P0 oldOutputs oldCreatedDirs P r → P.get d = some .dir →
      Steps P0 oldOutputs oldCreatedDirs (P.erase d) r
  /-- the whole set-up of a `build_file` (`_prepare_file_creation`: `_make_room` where needed, then `_make_dirs`), hit by
      an `OSError` at ANY of its mutating calls or by none (`FB.PrepareF`), whatever its outcome -/
  | prepare (P r) (vd vf : Path → Bool) (oldCreated : List Path) (fa : Option Nat) (fuel : Nat) (target : Path) (dirs : List Path) :
      Steps P0 oldOutputs oldCreatedDirs P r →
      (∀ q, target <+: q → q ∉ r.newOutputs ∧ q ∉ r.bk.saved.map (·.1)) → dirs.Nodup →
      (∀ d ∈ dirs, d ∉ r.newOutputs ∧ d ∉ r.bk.saved.map (·.1) ∧ ¬ target <+: d) →
      Steps P0 oldOutputs oldCreatedDirs (PrepareF.prepare vd vf oldCreated fa fuel P r.bk target dirs).st.fs
        (rbOf r (PrepareF.prepare vd vf oldCreated fa fuel P r.bk target dirs).st)

/-- every state a build reaches by such steps can be undone -/
theorem steps_undoable {P0 : FS} {oo ocd : List Path} {P : FS} {r : RB} (h : Steps P0 oo ocd P r) : Undoable P0 P r := by
  induction h with
  | start => exact Undoable.start P0 oo ocd
  | mkdir P r d _ hd hne ih => exact ih.mkdir d hd hne
  | moveAside P r p c0 m0 _ hg hn hs ih => exact ih.moveAside p c0 m0 hg hn hs
  | overwrite P r p c0 m0 c m _ hne hg hn hs ih => exact ih.overwrite p c0 m0 c m hne hg hn hs
  | writeNew P r p c m _ hne hg hs ih => exact ih.writeNew p c m hne hg hs
  | dropOutput P r p _ hsv ih => exact ih.dropOutput p hsv
  | rmEmpty P r ds _ ih => exact ih.rmEmpty ds
  | eraseDir P r d _ hd ih => exact ih.eraseDir d hd
  | prepare P r vd vf oldCreated fa fuel target dirs _ hbelow hnd hdirs ih =>
    exact prepare_undoable vd vf oldCreated fa fuel P0 r P target dirs ih hbelow hnd hdirs

/-- **C02 over the step language**: wherever a build made of such steps is abandoned, `_roll_back` gives back every
    regular file of the tree the build found — same bytes, same modification time — and leaves no other -/
theorem steps_rollback {P0 : FS} {oo ocd : List Path} {P : FS} {r : RB} (hwf0 : TreeWF P0) (h : Steps P0 oo ocd P r) :
    ∀ p c m, P0.get p = some (.file c m) ↔ (rollBack P r).get p = some (.file c m) :=
  undoable_rollback hwf0 (steps_undoable h)

theorem wf_single : TreeWF [((["f"] : Path), Entry.file "old" 1)] := by
  intro p hp hg
  have : p = ["f"] := by
    by_contra hne
    apply hg
    have h2 : ¬ (["f"] : Path) = p := fun e => hne e.symm
    simp [FS.get, hp, h2]
  subst this
  simp [FS.isDir, FS.get]

/-- non-vacuity: a build that made a directory, overwrote a foreign file and wrote a new one -/
example : ∃ P r, Steps [(["f"], .file "old" 1)] [] [] P r ∧ P.get ["f"] = some (.file "new" 9) ∧ P.get ["d", "n"] = some (.file "n" 3) ∧
    (rollBack P r).get ["f"] = some (.file "old" 1) ∧ (rollBack P r).get ["d", "n"] ≠ some (.file "n" 3) := by
  have s0 : Steps [(["f"], .file "old" 1)] [] [] _ _ := Steps.start
  have s1 := Steps.mkdir _ _ ["d"] s0 (by decide) (by decide)
  have s2 := Steps.overwrite _ _ ["f"] "old" 1 "new" 9 s1 (by decide) (by decide) (by decide) (by decide)
  have s3 := Steps.writeNew _ _ ["d", "n"] "n" 3 s2 (by decide) (by decide) (by decide)
  refine ⟨_, _, s3, by decide, by decide, ?_, ?_⟩
  · exact (steps_rollback wf_single s3 ["f"] "old" 1).mp (by decide)
  · intro hc
    have := (steps_rollback wf_single s3 ["d", "n"] "n" 3).mpr hc
    revert this; decide

end Rollback
end FB

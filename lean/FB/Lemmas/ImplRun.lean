/-
  `Impl.run`, branch by branch: which records a call leaves and in which states its parts run; and one call
  taken by itself (`FileCall`, `SubCall`): its outcome, the state after it and its record do not depend on the
  program that follows, so an induction over `Prog` analyses the call once and chains.
-/
import FB.Impl
import FB.Lemmas.Spec
namespace FB
open Spec Impl

/-- what a successful `_build_file_cache_lookup` means -/
theorem lookupFile_full (s : KSt) (path : Path) (cmp : Cmp) (fname : String) (args kwargs : Json)
    (made : List Path) (op : Op) (s2 : KSt)
    (h : lookupFile s path cmp fname args kwargs made = some (op, s2)) :
    ∃ p' rcmp rargs rkwargs subs ret cmpRes sf content s2',
      s.old.getFile path = some (.buildFile p' rcmp fname rargs rkwargs subs ret cmpRes false sf content) ∧
      versionOk s fname = true ∧ isEqual rargs args = true ∧ isEqual rkwargs kwargs = true ∧
      outputMatches s path rcmp cmpRes = true ∧ replayOps subs s = some s2' ∧
      cmpShelf s2' path cmp ≠ .null ∧
      op = .buildFile path cmp fname args kwargs subs ret (cmpShelf s2' path cmp) false false content ∧
      s2 = adopt s2' path made := by
  unfold lookupFile at h
  split at h
  · rename_i p' rcmp rfname rargs rkwargs subs ret cmpRes sf content hget
    split at h
    · rename_i hc
      simp only [Bool.and_eq_true, decide_eq_true_eq] at hc
      obtain ⟨⟨⟨⟨hfn, hv⟩, ha⟩, hk⟩, hom⟩ := hc
      subst hfn
      split at h
      · cases h
      · rename_i s2' hs2
        split at h
        · cases h
        · rename_i hnn
          simp only [Option.some.injEq, Prod.mk.injEq] at h
          exact ⟨p', rcmp, rargs, rkwargs, subs, ret, cmpRes, sf, content, s2', hget, hv, ha, hk, hom, hs2,
            (by intro e; exact hnn e), h.1.symm, h.2.symm⟩
    · cases h
  · cases h

/-- what a successful `_subbuild_cache_lookup` means -/
theorem lookupSub_some (s : KSt) (fname : String) (args kwargs : Json) (op : Op) (s2 : KSt)
    (h : lookupSub s fname args kwargs = some (op, s2)) :
    ∃ f a k subs ret sf, s.old.getSub (subKey fname args kwargs) = some (.subbuild f a k subs ret false sf) ∧
      versionOk s fname = true ∧ replayOps subs s = some s2 ∧
      op = .subbuild fname args kwargs subs ret false false := by
  unfold lookupSub at h
  split at h
  · rename_i f a k subs ret sf hget
    split at h
    · rename_i hv
      split at h
      · cases h
      · rename_i s2' hs2
        simp only [Option.some.injEq, Prod.mk.injEq] at h
        exact ⟨f, a, k, subs, ret, sf, hget, hv, by rw [hs2, h.2], h.1.symm⟩
    · cases h
  · cases h

namespace Impl

/-- the record of a `build_file` call whose function was executed and returned `rb`; `r'` is the outcome of the
    call and `s3` the state after it -/
def execFileOp (path : Path) (cmp : Cmp) (fname : String) (args kwargs : Json) (subs : List Op)
    (rb r' : CallRes) (s3 : KSt) : Op :=
  match r' with
  | .ok j =>
    Op.buildFile path cmp fname args kwargs subs j (cmpBuilt s3 path cmp) false false
      (match s3.sp.fs.get path with | some (.file b _) => b | _ => "")
  | .error _ =>
    Op.buildFile path cmp fname args kwargs subs (match rb with | .ok j => j | .error _ => .null) .null true false ""

/-- the record of a `subbuild` call whose function was executed and returned `rb` -/
def execSubOp (fname : String) (args kwargs : Json) (subs : List Op) (rb : CallRes) : Op :=
  match rb with
  | .ok j => Op.subbuild fname args kwargs subs j false false
  | .error _ => Op.subbuild fname args kwargs subs .null true false

theorem isComplexRegistered_execFileOp (path : Path) (cmp : Cmp) (fname : String) (args kwargs : Json)
    (subs : List Op) (rb r' : CallRes) (s3 : KSt) :
    isComplexRegistered (execFileOp path cmp fname args kwargs subs rb r' s3) = true := by
  cases r' <;> rfl

theorem isComplexRegistered_execSubOp (fname : String) (args kwargs : Json) (subs : List Op) (rb : CallRes) :
    isComplexRegistered (execSubOp fname args kwargs subs rb) = true := by
  cases rb <;> rfl

def queryOp (s : KSt) (q : Query) : Op :=
  match View.recVal s.sp.dirSize (visible s.sp) q with
  | .ok v => Op.simple q v none (View.answer s.sp.dirSize (visible s.sp) q)
  | .error e => Op.simple q .null (some e) (View.answer s.sp.dirSize (visible s.sp) q)

variable {t : Option Path} {s : KSt}

theorem run_query (q : Query) (k : UAns → Prog) (t : Option Path) (s : KSt) :
    run (.query q k) t s =
      (let rest := run (k (View.answer s.sp.dirSize (visible s.sp) q)) t s
       (rest.1, rest.2.1, queryOp s q :: rest.2.2)) := by
  rw [run]; rfl

variable {path : Path} {cmp : Cmp} {fname : String} {args kwargs : Json} {body : Prog} {k : CallRes → Prog}

theorem run_buildFile_refused {e : Exc} (hsetup : bfSetup s.sp path = .error e) :
    run (.buildFile path cmp fname args kwargs body k) t s =
      (let rest := run (k (.error e)) t (liftSp s fun sp => setupFailState sp path e)
       (rest.1, rest.2.1, .buildFile path cmp fname args kwargs [] .null .null true true "" :: rest.2.2)) := by
  rw [run, hsetup]

theorem run_buildFile_hit {sp1 : SpecSt} {made : List Path} {p : Path} {c : Cmp} {f : String} {a kw : Json}
    {subs : List Op} {ret cr : Json} {raised sf : Bool} {ct : String} {s2 : KSt}
    (hsetup : bfSetup s.sp path = .ok (sp1, made))
    (hlook : lookupFile (afterSetup s sp1 path made) path cmp fname args kwargs made =
      some (.buildFile p c f a kw subs ret cr raised sf ct, s2)) :
    run (.buildFile path cmp fname args kwargs body k) t s =
      (let rest := run (k (.ok ret)) t s2
       (rest.1, rest.2.1, .buildFile p c f a kw subs ret cr raised sf ct :: rest.2.2)) := by
  rw [run, hsetup]; simp only [hlook]

theorem run_buildFile_miss {sp1 : SpecSt} {made : List Path}
    (hsetup : bfSetup s.sp path = .ok (sp1, made))
    (hlook : lookupFile (afterSetup s sp1 path made) path cmp fname args kwargs made = none) :
    run (.buildFile path cmp fname args kwargs body k) t s =
      (let out := run body (some path) (missStart (afterSetup s sp1 path made) path ⟨fname, some path, args, kwargs⟩)
       let fin := bfFinish out.2.1.sp path made out.1
       let s3 := withSp out.2.1 fin.2
       let rest := run (k fin.1) t s3
       (rest.1, rest.2.1, execFileOp path cmp fname args kwargs out.2.2 out.1 fin.1 s3 :: rest.2.2)) := by
  rw [run, hsetup]; simp only [hlook]; rfl

theorem run_subbuild_dup (h1 : s.sp.claimedSubs.any (heq (subKey fname args kwargs)) = true) :
    run (.subbuild fname args kwargs body k) t s =
      (let rest := run (k (.error (.runtime .dupSub))) t s
       (rest.1, rest.2.1, .subbuild fname args kwargs [] .null true true :: rest.2.2)) := by
  rw [run]; simp only [h1, if_true]

theorem run_subbuild_fault (h1 : s.sp.claimedSubs.any (heq (subKey fname args kwargs)) = false)
    (h2 : s.sp.failSubs.any (heq (subKey fname args kwargs)) = true) :
    run (.subbuild fname args kwargs body k) t s =
      (let rest := run (k (.error (.os .other))) t (liftSp s fun sp => consumeSubFault sp (subKey fname args kwargs))
       (rest.1, rest.2.1, .subbuild fname args kwargs [] .null true true :: rest.2.2)) := by
  rw [run]; simp only [h1, h2, if_true, Bool.false_eq_true, if_false]

theorem run_subbuild_hit {f : String} {a kw : Json} {subs : List Op} {ret : Json} {raised sf : Bool} {s2 : KSt}
    (h1 : s.sp.claimedSubs.any (heq (subKey fname args kwargs)) = false)
    (h2 : s.sp.failSubs.any (heq (subKey fname args kwargs)) = false)
    (hlook : lookupSub (subClaim s (subKey fname args kwargs)) fname args kwargs =
      some (.subbuild f a kw subs ret raised sf, s2)) :
    run (.subbuild fname args kwargs body k) t s =
      (let rest := run (k (.ok ret)) t s2
       (rest.1, rest.2.1, .subbuild f a kw subs ret raised sf :: rest.2.2)) := by
  rw [run]; simp only [h1, h2, Bool.false_eq_true, if_false, hlook]

theorem run_subbuild_miss (h1 : s.sp.claimedSubs.any (heq (subKey fname args kwargs)) = false)
    (h2 : s.sp.failSubs.any (heq (subKey fname args kwargs)) = false)
    (hlook : lookupSub (subClaim s (subKey fname args kwargs)) fname args kwargs = none) :
    run (.subbuild fname args kwargs body k) t s =
      (let out := run body none (subStart (subClaim s (subKey fname args kwargs)) ⟨fname, none, args, kwargs⟩)
       let rest := run (k out.1) t out.2.1
       (rest.1, rest.2.1, execSubOp fname args kwargs out.2.2 out.1 :: rest.2.2)) := by
  rw [run]; simp only [h1, h2, Bool.false_eq_true, if_false, hlook]; rfl

/-- `FileCall s path cmp fname args kwargs body r s' op`: in state `s` the call `build_file path …` has outcome `r`,
    leaves state `s'` and the record `op` — refused in its set-up, served from its record, or its function ran -/
inductive FileCall (s : KSt) (path : Path) (cmp : Cmp) (fname : String) (args kwargs : Json) (body : Prog) :
    CallRes → KSt → Op → Prop
  | refused (e : Exc) : bfSetup s.sp path = .error e →
      FileCall s path cmp fname args kwargs body (.error e) (liftSp s fun sp => setupFailState sp path e)
        (.buildFile path cmp fname args kwargs [] .null .null true true "")
  | served (sp1 : SpecSt) (made : List Path) (subs : List Op) (ret now : Json) (content : String) (s2 : KSt) :
      bfSetup s.sp path = .ok (sp1, made) →
      lookupFile (afterSetup s sp1 path made) path cmp fname args kwargs made =
        some (.buildFile path cmp fname args kwargs subs ret now false false content, s2) →
      FileCall s path cmp fname args kwargs body (.ok ret) s2
        (.buildFile path cmp fname args kwargs subs ret now false false content)
  | executed (sp1 : SpecSt) (made : List Path) (out : CallRes × KSt × List Op) :
      bfSetup s.sp path = .ok (sp1, made) →
      lookupFile (afterSetup s sp1 path made) path cmp fname args kwargs made = none →
      run body (some path) (missStart (afterSetup s sp1 path made) path ⟨fname, some path, args, kwargs⟩) = out →
      FileCall s path cmp fname args kwargs body (bfFinish out.2.1.sp path made out.1).1
        (withSp out.2.1 (bfFinish out.2.1.sp path made out.1).2)
        (execFileOp path cmp fname args kwargs out.2.2 out.1 (bfFinish out.2.1.sp path made out.1).1
          (withSp out.2.1 (bfFinish out.2.1.sp path made out.1).2))

/-- what a `build_file` call does is independent of the program that follows it -/
theorem run_buildFile_call (s : KSt) (path : Path) (cmp : Cmp) (fname : String) (args kwargs : Json) (body : Prog) :
    ∃ r s' op, FileCall s path cmp fname args kwargs body r s' op ∧
      ∀ (k : CallRes → Prog) (t : Option Path), run (.buildFile path cmp fname args kwargs body k) t s =
        ((run (k r) t s').1, (run (k r) t s').2.1, op :: (run (k r) t s').2.2) := by
  cases hs : bfSetup s.sp path with
  | error e => exact ⟨_, _, _, .refused e hs, fun _ _ => run_buildFile_refused hs⟩
  | ok r =>
    obtain ⟨sp1, made⟩ := r
    cases hl : lookupFile (afterSetup s sp1 path made) path cmp fname args kwargs made with
    | none => exact ⟨_, _, _, .executed sp1 made _ hs hl rfl, fun _ _ => run_buildFile_miss hs hl⟩
    | some r =>
      obtain ⟨op, s2⟩ := r
      obtain ⟨_, _, _, _, subs, ret, _, _, content, s2', -, -, -, -, -, -, -, rfl, rfl⟩ :=
        lookupFile_full _ _ _ _ _ _ _ _ _ hl
      exact ⟨_, _, _, .served sp1 made subs ret _ content _ hs hl, fun _ _ => run_buildFile_hit hs hl⟩

/-- the same for `subbuild`: a duplicate key, an injected fault, served from its record, or its function ran -/
inductive SubCall (s : KSt) (fname : String) (args kwargs : Json) (body : Prog) : CallRes → KSt → Op → Prop
  | dup : s.sp.claimedSubs.any (heq (subKey fname args kwargs)) = true →
      SubCall s fname args kwargs body (.error (.runtime .dupSub)) s (.subbuild fname args kwargs [] .null true true)
  | fault : s.sp.claimedSubs.any (heq (subKey fname args kwargs)) = false →
      s.sp.failSubs.any (heq (subKey fname args kwargs)) = true →
      SubCall s fname args kwargs body (.error (.os .other))
        (liftSp s fun sp => consumeSubFault sp (subKey fname args kwargs)) (.subbuild fname args kwargs [] .null true true)
  | served (subs : List Op) (ret : Json) (s2 : KSt) :
      s.sp.claimedSubs.any (heq (subKey fname args kwargs)) = false →
      s.sp.failSubs.any (heq (subKey fname args kwargs)) = false →
      lookupSub (subClaim s (subKey fname args kwargs)) fname args kwargs =
        some (.subbuild fname args kwargs subs ret false false, s2) →
      SubCall s fname args kwargs body (.ok ret) s2 (.subbuild fname args kwargs subs ret false false)
  | executed (out : CallRes × KSt × List Op) :
      s.sp.claimedSubs.any (heq (subKey fname args kwargs)) = false →
      s.sp.failSubs.any (heq (subKey fname args kwargs)) = false →
      lookupSub (subClaim s (subKey fname args kwargs)) fname args kwargs = none →
      run body none (subStart (subClaim s (subKey fname args kwargs)) ⟨fname, none, args, kwargs⟩) = out →
      SubCall s fname args kwargs body out.1 out.2.1 (execSubOp fname args kwargs out.2.2 out.1)

theorem run_subbuild_call (s : KSt) (fname : String) (args kwargs : Json) (body : Prog) :
    ∃ r s' op, SubCall s fname args kwargs body r s' op ∧
      ∀ (k : CallRes → Prog) (t : Option Path), run (.subbuild fname args kwargs body k) t s =
        ((run (k r) t s').1, (run (k r) t s').2.1, op :: (run (k r) t s').2.2) := by
  cases h1 : s.sp.claimedSubs.any (heq (subKey fname args kwargs)) with
  | true => exact ⟨_, _, _, .dup h1, fun _ _ => run_subbuild_dup h1⟩
  | false =>
    cases h2 : s.sp.failSubs.any (heq (subKey fname args kwargs)) with
    | true => exact ⟨_, _, _, .fault h1 h2, fun _ _ => run_subbuild_fault h1 h2⟩
    | false =>
      cases hl : lookupSub (subClaim s (subKey fname args kwargs)) fname args kwargs with
      | none => exact ⟨_, _, _, .executed _ h1 h2 hl rfl, fun _ _ => run_subbuild_miss h1 h2 hl⟩
      | some r =>
        obtain ⟨op, s2⟩ := r
        obtain ⟨_, _, _, subs, ret, _, -, -, -, rfl⟩ := lookupSub_some _ _ _ _ _ _ hl
        exact ⟨_, _, _, .served subs ret s2 h1 h2 hl, fun _ _ => run_subbuild_hit h1 h2 hl⟩

section buildGo
variable {w : KWorld} {cf : Path} {name : String} {vs : List (String × Json)} {root : Prog} {ff : List Path} {fsb : List H}
  {ab : Nat} {old : CacheRec}

theorem buildGo_nodirs {e : OSErr}
    (h : (if ab = 1 then .error .other else dirsToMake (visible (buildStart w cf vs ff fsb old []).sp) cf [] cf.dropLast) =
      .error e) :
    buildGo w cf name vs root ff fsb ab old =
      { res := .error (.os e),
        world := { w with fs := mkdirs w.fs (old.createdDirs.mergeSort (fun a b => a.length ≤ b.length)) } } := by
  unfold buildGo; simp only [h]

/-- once the directories for the cache file are made, the outcome of the root function decides: roll back or commit -/
theorem buildGo_dirs {cds : List Path}
    (h : (if ab = 1 then .error .other else dirsToMake (visible (buildStart w cf vs ff fsb old []).sp) cf [] cf.dropLast) =
      .ok cds) :
    buildGo w cf name vs root ff fsb ab old =
      (let out := run root none (buildStart w cf vs ff fsb old cds)
       match rootRes ab out.1 with
       | .error e =>
         { res := .error e,
           world := { w with fs := mkdirs w.fs (old.createdDirs.mergeSort (fun a b => a.length ≤ b.length)),
                             clock := out.2.1.sp.clock },
           invLog := out.2.1.sp.invLog.reverse }
       | .ok v =>
         let rec_ : CacheRec := { buildName := name, roots := out.2.2.filter isComplexRegistered,
                                  createdDirs := dedup (out.2.1.sp.createdDirs.reverse ++ cds), versions := vs }
         { res := .ok v,
           world := { w with fs := out.2.1.sp.fs.write cf (cacheToken w.nextSerial) 0, recs := (w.nextSerial, rec_) :: w.recs,
                             nextSerial := w.nextSerial + 1, clock := out.2.1.sp.clock },
           invLog := out.2.1.sp.invLog.reverse, written := some rec_, claimed := out.2.1.sp.claimedFiles }) := by
  unfold buildGo; simp only [h]; rfl

end buildGo

end Impl
end FB

/-
  Every answer user code can see is the same on trees that are equal up to modification times;
  `visible`, `dirsToMake` and `bfSetup` respect the relation.
-/
import FB.Lemmas.Sim
namespace FB
open FS Spec

namespace View

theorem sim_exists {a b : FS} (h : FS.Sim a b) (p : Path) : exists_ a p = exists_ b p := by
  simp [exists_, h.isFile, h.isDir]

theorem sim_names {a b : FS} (h : FS.Sim a b) (d : Path) : names a d = names b d := by
  unfold names
  rw [h.listdir d]
  congr 1
  funext n
  exact sim_exists h _

theorem sim_listDir {a b : FS} (h : FS.Sim a b) (d : Path) : listDir a d = listDir b d := by
  simp [listDir, h.isFile, h.isDir, sim_names h]

theorem sim_walkAux {a b : FS} (h : FS.Sim a b) (fuel : Nat) (d : Path) (td : Bool) :
    walkAux fuel a d td = walkAux fuel b d td := by
  induction fuel generalizing d with
  | zero => simp [walkAux]
  | succ n ih =>
    simp only [walkAux, sim_names h d]
    have hf : (fun n => a.isFile (d ++ [n])) = (fun n => b.isFile (d ++ [n])) := by
      funext n; exact h.isFile _
    have hd : (fun n => !a.isFile (d ++ [n]) && a.isDir (d ++ [n])) =
        (fun n => !b.isFile (d ++ [n]) && b.isDir (d ++ [n])) := by
      funext n; rw [h.isFile, h.isDir]
    rw [hf, hd]
    have hb : (fun n_1 => walkAux n a (d ++ [n_1]) td) = (fun n_1 => walkAux n b (d ++ [n_1]) td) := by
      funext m; exact ih _
    rw [hb]

theorem sim_walk {a b : FS} (h : FS.Sim a b) (d : Path) (td : Bool) : walk a d td = walk b d td := by
  simp [walk, h.isDir, sim_walkAux h]

theorem sim_getSize {a b : FS} (h : FS.Sim a b) (ds : Nat) (p : Path) : getSize ds a p = getSize ds b p := by
  unfold getSize
  rcases Entry.sim_cases (h p) with ⟨ha, hb⟩ | ⟨ha, hb⟩ | ⟨c, m, m', ha, hb⟩ <;> rw [ha, hb]

/-- what user code sees does not depend on modification times -/
theorem sim_answer {a b : FS} (h : FS.Sim a b) (ds : Nat) (q : Query) : answer ds a q = answer ds b q := by
  cases q with
  | isFile p => simp [answer, recVal, h.isFile]
  | isDir p => simp [answer, recVal, h.isDir]
  | exists_ p => simp [answer, recVal, sim_exists h]
  | listDir p => simp [answer, recVal, sim_listDir h]
  | walk p td => simp [answer, recVal, sim_walk h]
  | getSize p => simp [answer, recVal, sim_getSize h]
  | read p c =>
    have := h p
    simp only [answer]
    cases ha : a.get p with
    | none => cases hb : b.get p <;> simp_all [Entry.sim]
    | some x => cases hb : b.get p with
      | none => cases x <;> simp_all [Entry.sim]
      | some y => cases x <;> cases y <;> simp_all [Entry.sim]

end View

/-- the reference states of two runs that differ only in modification times, clocks, logs and in
    what the functions currently running have written so far -/
structure SpecSt.Sim (a b : SpecSt) : Prop where
  fs : FS.Sim a.fs b.fs
  cacheFile : a.cacheFile = b.cacheFile
  dirSize : a.dirSize = b.dirSize
  claimedFiles : a.claimedFiles = b.claimedFiles
  claimedSubs : a.claimedSubs = b.claimedSubs
  inProg : a.inProg = b.inProg
  outputs : a.outputs = b.outputs
  createdDirs : a.createdDirs = b.createdDirs
  failFiles : a.failFiles = b.failFiles
  failSubs : a.failSubs = b.failSubs

theorem SpecSt.Sim.invLog {a b : SpecSt} (h : SpecSt.Sim a b) (la lb : List Inv) :
    SpecSt.Sim { a with invLog := la } { b with invLog := lb } :=
  ⟨h.fs, h.cacheFile, h.dirSize, h.claimedFiles, h.claimedSubs, h.inProg, h.outputs, h.createdDirs, h.failFiles,
    h.failSubs⟩

theorem SpecSt.Sim.pending {a b : SpecSt} (h : SpecSt.Sim a b) (pa pb : List (Path × String × Nat)) (ca cb : Nat) :
    SpecSt.Sim { a with pending := pa, clock := ca } { b with pending := pb, clock := cb } :=
  ⟨h.fs, h.cacheFile, h.dirSize, h.claimedFiles, h.claimedSubs, h.inProg, h.outputs, h.createdDirs, h.failFiles,
    h.failSubs⟩

theorem SpecSt.Sim.trans {a b c : SpecSt} (h1 : SpecSt.Sim a b) (h2 : SpecSt.Sim b c) : SpecSt.Sim a c :=
  ⟨fun p => Entry.sim_trans (h1.fs p) (h2.fs p), h1.cacheFile.trans h2.cacheFile, h1.dirSize.trans h2.dirSize,
   h1.claimedFiles.trans h2.claimedFiles, h1.claimedSubs.trans h2.claimedSubs, h1.inProg.trans h2.inProg,
   h1.outputs.trans h2.outputs, h1.createdDirs.trans h2.createdDirs, h1.failFiles.trans h2.failFiles,
   h1.failSubs.trans h2.failSubs⟩

theorem SpecSt.Sim.refl (a : SpecSt) : SpecSt.Sim a a :=
  ⟨FS.Sim.refl _, rfl, rfl, rfl, rfl, rfl, rfl, rfl, rfl, rfl⟩

namespace Spec

theorem sim_foldl_erase (ps : List Path) {a b : FS} (h : FS.Sim a b) :
    FS.Sim (ps.foldl (fun fs p => fs.erase p) a) (ps.foldl (fun fs p => fs.erase p) b) := by
  induction ps generalizing a b with
  | nil => exact h
  | cons p r ih => exact ih (h.erase p)

theorem sim_visible {a b : SpecSt} (h : SpecSt.Sim a b) : FS.Sim (visible a) (visible b) := by
  unfold visible
  rw [h.inProg, h.cacheFile]
  exact (sim_foldl_erase _ h.fs).erase _

theorem sim_dirsToMake {a b : FS} (h : FS.Sim a b) (cf : Path) (bl : List Path) (d : Path) :
    dirsToMake a cf bl d = dirsToMake b cf bl d := by
  induction hn : d.length using Nat.strong_induction_on generalizing d with
  | _ n ih =>
    conv => lhs; rw [dirsToMake]
    conv => rhs; rw [dirsToMake]
    by_cases hd : d = []
    · simp [hd]
    · simp only [hd, dite_false, h.isDir, h.isFile]
      have hlt : d.dropLast.length < n := by
        rw [← hn, List.length_dropLast]
        have : d.length ≠ 0 := by simpa using hd
        omega
      rw [ih _ hlt d.dropLast rfl]

theorem sim_bfSetup {a b : SpecSt} (h : SpecSt.Sim a b) (path : Path) :
    (∃ e, bfSetup a path = .error e ∧ bfSetup b path = .error e) ∨
    (∃ a1 b1 made, bfSetup a path = .ok (a1, made) ∧ bfSetup b path = .ok (b1, made) ∧ SpecSt.Sim a1 b1 ∧
      a1.pending = a.pending ∧ b1.pending = b.pending) := by
  unfold bfSetup
  rw [← h.claimedFiles, ← h.cacheFile, ← h.inProg, ← h.failFiles, ← h.fs.isDir path,
    sim_dirsToMake (sim_visible h)]
  by_cases h1 : path ∈ a.claimedFiles
  · left; exact ⟨.runtime .dupFile, by simp [h1], by simp [h1]⟩
  by_cases h2 : path = a.cacheFile
  · left; exact ⟨.runtime .cacheTarget, by simp [← h2, h1], by simp [← h2, h1]⟩
  by_cases h3 : a.fs.isDir path = true
  · left; exact ⟨.os .isADir, by simp [h1, h2, h3], by simp [h1, h2, h3]⟩
  cases hdm : dirsToMake (visible b) a.cacheFile a.inProg path.dropLast with
  | error e => left; exact ⟨.os e, by simp [h1, h2, h3], by simp [h1, h2, h3]⟩
  | ok ds =>
    by_cases h4 : path ∈ a.failFiles
    · left; exact ⟨.os .other, by simp [h1, h2, h3, h4], by simp [h1, h2, h3, h4]⟩
    by_cases h5 : ds.any Path.tooLong = true
    · left; exact ⟨.os .other, by simp [h1, h2, h3, h4, h5], by simp [h1, h2, h3, h4, h5]⟩
    right
    have hm := sim_mkdirs ds h.fs
    refine ⟨setupState a path ds, setupState b path ds, ds, by simp [h1, h2, h3, h4, h5], ?_, ?_, rfl, rfl⟩
    · simp [h1, h2, h3, h4, h5]
    exact ⟨hm.eraseFile path, h.cacheFile, h.dirSize, congrArg (path :: ·) h.claimedFiles, h.claimedSubs,
      congrArg (path :: ·) h.inProg, h.outputs, h.createdDirs, h.failFiles, h.failSubs⟩

end Spec
end FB

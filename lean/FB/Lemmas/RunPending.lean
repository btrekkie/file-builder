/-
  What a from-scratch run (`Spec.run`) leaves alone: the pending content of targets that are already
  claimed by an enclosing call, and the set of claims only grows.
-/
import FB.Lemmas.Spec
namespace FB
open FS Spec

theorem pendingFind_cons_ne (p q : Path) (b : String) (m : Nat) (pend : List (Path × String × Nat))
    (h : p ≠ q) : pendingFind ((p, b, m) :: pend) q = pendingFind pend q := by
  simp [pendingFind, List.find?, h]

theorem pendingFind_cons_self (p : Path) (b : String) (m : Nat) (pend : List (Path × String × Nat)) :
    pendingFind ((p, b, m) :: pend) p = some (b, m) := by
  simp [pendingFind, List.find?]

theorem pendingFind_filter_ne (path q : Path) (pend : List (Path × String × Nat)) (h : q ≠ path) :
    pendingFind (pend.filter (fun x => x.1 ≠ path)) q = pendingFind pend q := by
  induction pend with
  | nil => rfl
  | cons x r ih =>
    obtain ⟨p, b, m⟩ := x
    by_cases hp : p = path
    · subst hp
      have : ¬ (p ≠ p) := by simp
      simp only [List.filter, ne_eq, not_true_eq_false, decide_false]
      rw [ih, pendingFind_cons_ne _ _ _ _ _ (Ne.symm h)]
    · simp only [List.filter, ne_eq, hp, not_false_eq_true, decide_true]
      by_cases hq : p = q
      · subst hq; simp [pendingFind, List.find?]
      · rw [pendingFind_cons_ne _ _ _ _ _ hq, pendingFind_cons_ne _ _ _ _ _ hq, ih]

theorem pendingFind_filter_self (path : Path) (pend : List (Path × String × Nat)) :
    pendingFind (pend.filter (fun x => x.1 ≠ path)) path = none := by
  induction pend with
  | nil => rfl
  | cons x r ih =>
    obtain ⟨p, b, m⟩ := x
    by_cases hp : p = path
    · subst hp; simpa [List.filter] using ih
    · simp only [List.filter, ne_eq, hp, not_false_eq_true, decide_true]
      rw [pendingFind_cons_ne _ _ _ _ _ hp]; exact ih

theorem pendingFind_filter (path q : Path) (pend : List (Path × String × Nat)) :
    pendingFind (pend.filter (fun x => x.1 ≠ path)) q = if q = path then none else pendingFind pend q := by
  by_cases h : q = path
  · subst h; rw [if_pos rfl]; exact pendingFind_filter_self _ _
  · rw [if_neg h]; exact pendingFind_filter_ne _ _ _ h

theorem bfSetup_ok_fields (s s1 : SpecSt) (path : Path) (made : List Path)
    (h : bfSetup s path = .ok (s1, made)) :
    s1 = setupState s path made ∧ path ∉ s.claimedFiles ∧ path ≠ s.cacheFile ∧ s.fs.isDir path = false ∧
    dirsToMake (visible s) s.cacheFile s.inProg path.dropLast = .ok made ∧ path ∉ s.failFiles := by
  unfold bfSetup at h
  -- one test after the other (splitting the whole chain at once is slow to check)
  cases hc : s.claimedFiles.contains path <;> rw [hc] at h
  case true => cases h
  by_cases hcf : path = s.cacheFile
  · rw [if_pos hcf] at h; cases h
  rw [if_neg hcf] at h
  cases hd : s.fs.isDir path <;> rw [hd] at h
  case true => cases h
  cases hdm : dirsToMake (visible s) s.cacheFile s.inProg path.dropLast <;> rw [hdm] at h
  case error => cases h
  rename_i ds
  cases hff : s.failFiles.contains path <;> simp only [hff] at h
  case true => cases h
  cases hlong : ds.any Path.tooLong <;> simp only [hlong] at h
  case true => cases h
  cases h
  exact ⟨rfl, by simpa using hc, hcf, rfl, rfl, by simpa using hff⟩

theorem bfFinish_claimed (s : SpecSt) (path : Path) (made : List Path) (r : CallRes) :
    (bfFinish s path made r).2.claimedFiles = s.claimedFiles := by
  unfold bfFinish
  cases r with
  | error e => rfl
  | ok j => simp only; split <;> rfl

/-- the state `bfFinish` leaves when the call fails -/
def failSt (s : SpecSt) (path : Path) (made : List Path) : SpecSt :=
  { s with inProg := s.inProg.erase path, pending := s.pending.filter (fun x => x.1 ≠ path),
           fs := rmEmpty s.fs made,
           createdDirs := (made.filter (rmEmpty s.fs made).isDir) ++ s.createdDirs }

theorem bfFinish_error (s : SpecSt) (path : Path) (made : List Path) (e : Exc) :
    bfFinish s path made (.error e) = (.error e, failSt s path made) := by
  unfold bfFinish failSt; rfl

theorem bfFinish_notCreated (s : SpecSt) (path : Path) (made : List Path) (j : Json)
    (h : pendingFind s.pending path = none) :
    bfFinish s path made (.ok j) = (.error (notCreatedExc path), failSt s path made) := by
  unfold bfFinish failSt; simp only [h]

/-- the state `bfFinish` leaves when the function returned and had written `c` -/
def finOk (s : SpecSt) (path : Path) (made : List Path) (c : String) (m : Nat) : SpecSt :=
  { s with inProg := s.inProg.erase path, pending := s.pending.filter (fun x => x.1 ≠ path),
           fs := s.fs.set path (.file c m), outputs := path :: s.outputs, createdDirs := made ++ s.createdDirs }

theorem bfFinish_ok (s : SpecSt) (path : Path) (made : List Path) (j : Json) (c : String) (m : Nat)
    (h : pendingFind s.pending path = some (c, m)) :
    bfFinish s path made (.ok j) = (.ok j, finOk s path made c m) := by
  unfold bfFinish finOk; simp only [h]

theorem bfFinish_fst_ok {s : SpecSt} {path : Path} {made : List Path} {r : CallRes} {j : Json}
    (h : (bfFinish s path made r).1 = .ok j) :
    ∃ c m, pendingFind s.pending path = some (c, m) ∧ r = .ok j ∧ (bfFinish s path made r).2 = finOk s path made c m := by
  cases r with
  | error e => rw [bfFinish_error] at h; cases h
  | ok j' =>
    cases hw : pendingFind s.pending path with
    | none => rw [bfFinish_notCreated _ _ _ _ hw] at h; cases h
    | some x => rw [bfFinish_ok _ _ _ _ x.1 x.2 hw] at h ⊢; cases h; exact ⟨x.1, x.2, rfl, rfl, rfl⟩

theorem bfFinish_fst_error {s : SpecSt} {path : Path} {made : List Path} {r : CallRes} {e : Exc}
    (h : (bfFinish s path made r).1 = .error e) : (bfFinish s path made r).2 = failSt s path made := by
  cases r with
  | error e' => rw [bfFinish_error]
  | ok j =>
    cases hw : pendingFind s.pending path with
    | none => rw [bfFinish_notCreated _ _ _ _ hw]
    | some x => rw [bfFinish_ok _ _ _ _ x.1 x.2 hw] at h; cases h

theorem bfFinish_inProg (s : SpecSt) (path : Path) (made : List Path) (r : CallRes) :
    (bfFinish s path made r).2.inProg = s.inProg.erase path := by
  unfold bfFinish
  cases r with
  | error e => rfl
  | ok j => simp only; split <;> rfl

theorem bfFinish_cacheFile (s : SpecSt) (path : Path) (made : List Path) (r : CallRes) :
    (bfFinish s path made r).2.cacheFile = s.cacheFile := by
  unfold bfFinish
  cases r with
  | error e => rfl
  | ok j => simp only; split <;> rfl

theorem bfFinish_fs (s : SpecSt) (path : Path) (made : List Path) (r : CallRes) :
    (∃ c m, (bfFinish s path made r).2.fs = s.fs.set path (.file c m)) ∨
    (bfFinish s path made r).2.fs = rmEmpty s.fs made := by
  unfold bfFinish
  cases r with
  | error e => exact .inr rfl
  | ok j =>
    cases pendingFind s.pending path with
    | none => exact .inr rfl
    | some x => exact .inl ⟨x.1, x.2, rfl⟩

theorem bfFinish_keeps (s : SpecSt) (path : Path) (made : List Path) (r : CallRes) :
    (bfFinish s path made r).2.dirSize = s.dirSize ∧ (bfFinish s path made r).2.failFiles = s.failFiles ∧
    (bfFinish s path made r).2.failSubs = s.failSubs := by
  unfold bfFinish
  cases r with
  | error e => exact ⟨rfl, rfl, rfl⟩
  | ok j => simp only; split <;> exact ⟨rfl, rfl, rfl⟩

theorem bfFinish_outputs (s : SpecSt) (path : Path) (made : List Path) (r : CallRes) :
    (bfFinish s path made r).2.outputs =
      (match (bfFinish s path made r).1 with | .ok _ => path :: s.outputs | .error _ => s.outputs) := by
  unfold bfFinish
  cases r with
  | error e => rfl
  | ok j => simp only; split <;> rfl

theorem bfFinish_pending (s : SpecSt) (path : Path) (made : List Path) (r : CallRes) :
    (bfFinish s path made r).2.pending = s.pending.filter (fun x => x.1 ≠ path) := by
  unfold bfFinish
  cases r with
  | error e => rfl
  | ok j => simp only; split <;> rfl

/-- A from-scratch run never un-claims anything, and it leaves alone what is pending for a target other than its
    own that is claimed already (a call for it is refused) or has nothing pending (a call for it ends with
    nothing pending again). -/
theorem run_keeps_pending (prog : Prog) : ∀ (t : Option Path) (sp : SpecSt),
    (∀ x ∈ sp.claimedFiles, x ∈ (run prog t sp).2.1.claimedFiles) ∧
    (∀ q, t ≠ some q → q ∈ sp.claimedFiles ∨ pendingFind sp.pending q = none →
      pendingFind (run prog t sp).2.1.pending q = pendingFind sp.pending q) := by
  induction prog with
  | ret v =>
    intro t sp
    rw [run]
    split <;> exact ⟨fun _ h => h, fun _ _ _ => rfl⟩
  | raise e => intro t sp; exact ⟨fun _ h => h, fun _ _ _ => rfl⟩
  | query q k ih => intro t sp; rw [run]; exact ih _ t sp
  | write b mt k ih =>
    intro t sp
    cases t with
    | none => rw [run]; exact ih none sp
    | some p =>
      rw [run]
      have := ih (some p) { sp with pending := (p, b, mt.getD sp.clock) :: sp.pending, clock := sp.clock + 1 }
      refine ⟨this.1, fun q hne hq => ?_⟩
      have hpq : p ≠ q := fun e => hne (by rw [e])
      have h1 : pendingFind ((p, b, mt.getD sp.clock) :: sp.pending) q = pendingFind sp.pending q :=
        pendingFind_cons_ne _ _ _ _ _ hpq
      rw [this.2 q hne (hq.imp id fun h => h1.trans h)]
      exact h1
  | buildFile path cmp fname args kwargs body k ihb ihk =>
    intro t sp
    rw [run]
    cases hs : bfSetup sp path with
    | error e => exact ihk _ t (setupFailState sp path e)
    | ok r =>
      obtain ⟨s1, made⟩ := r
      obtain ⟨rfl, hncl, -⟩ := bfSetup_ok_fields _ _ _ _ hs
      have hb := ihb (some path) { setupState sp path made with
        invLog := ⟨fname, some path, args, kwargs⟩ :: (setupState sp path made).invLog }
      dsimp only
      generalize run body (some path) _ = rb at hb ⊢
      have hk := ihk (bfFinish rb.2.1 path made rb.1).1 t (bfFinish rb.2.1 path made rb.1).2
      have hcl : ∀ x ∈ sp.claimedFiles, x ∈ (bfFinish rb.2.1 path made rb.1).2.claimedFiles := by
        intro x hx
        rw [bfFinish_claimed]
        exact hb.1 x (List.mem_cons_of_mem _ hx)
      refine ⟨fun x hx => hk.1 x (hcl x hx), fun q hne hq => ?_⟩
      have h3 : pendingFind (bfFinish rb.2.1 path made rb.1).2.pending q = pendingFind sp.pending q := by
        rw [bfFinish_pending]
        by_cases hqp : q = path
        · -- the target of this call: nothing was pending for it, and nothing is after the call
          subst hqp
          rw [pendingFind_filter_self]
          exact (hq.resolve_left hncl).symm
        · rw [pendingFind_filter_ne _ _ _ hqp]
          exact hb.2 q (fun e => hqp (by injection e with e; exact e.symm)) (hq.imp (List.mem_cons_of_mem _) id)
      rw [hk.2 q hne (hq.imp (hcl q) fun h => h3.trans h)]
      exact h3
  | subbuild fname args kwargs body k ihb ihk =>
    intro t sp
    rw [run]
    split
    · exact ihk _ t sp
    · split
      · exact ihk _ t (consumeSubFault sp _)
      · have hb := ihb none { sp with
          claimedSubs := subKey fname args kwargs :: sp.claimedSubs,
          invLog := ⟨fname, none, args, kwargs⟩ :: sp.invLog }
        dsimp only
        generalize run body none _ = rb at hb ⊢
        have hk := ihk rb.1 t rb.2.1
        refine ⟨fun x hx => hk.1 x (hb.1 x hx), fun q hne hq => ?_⟩
        have h2 := hb.2 q (fun h => nomatch h) hq
        rw [hk.2 q hne (hq.imp (hb.1 q) fun h => h2.trans h)]
        exact h2

/-- A from-scratch run does not touch what an enclosing call has written into its (claimed) target,
    and never un-claims anything. -/
theorem run_keeps_claimed (prog : Prog) (t : Option Path) (sp : SpecSt) :
    (∀ x ∈ sp.claimedFiles, x ∈ (run prog t sp).2.1.claimedFiles) ∧
    (∀ q ∈ sp.claimedFiles, t ≠ some q →
      pendingFind (run prog t sp).2.1.pending q = pendingFind sp.pending q) :=
  ⟨(run_keeps_pending prog t sp).1, fun q hq hne => (run_keeps_pending prog t sp).2 q hne (.inl hq)⟩

end FB

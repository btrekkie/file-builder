/-
  The reference semantics piece by piece: what `mkdirs`, `rmEmpty` and `visible` do to the tree, what `dirsToMake`
  returns, and the equations of `Spec.run` and `Spec.buildGo` per branch.
-/
import FB.Spec
import FB.Lemmas.FS
import FB.Lemmas.FSKind
namespace FB
namespace Rollback
open FS Spec

theorem mkdirStep_get_mem (fs : FS) (d q : Path) :
    (mkdirStep fs d).get q = fs.get q ∨ (q = d ∧ fs.get q = none ∧ (mkdirStep fs d).get q = some .dir) := by
  unfold mkdirStep
  cases h : fs.mkdir d with
  | error e => simp
  | ok fs' =>
    simp only
    rw [get_mkdir fs fs' d q h]
    by_cases hq : q = d
    · subst hq; right; simp [mkdir_absent fs fs' q h]
    · left; simp [hq]

theorem mkdirs_get_mem (ds : List Path) (fs : FS) (q : Path) :
    (mkdirs fs ds).get q = fs.get q ∨ (q ∈ ds ∧ fs.get q = none ∧ (mkdirs fs ds).get q = some .dir) := by
  induction ds generalizing fs with
  | nil => simp [mkdirs]
  | cons d r ih =>
    have hstep : mkdirs fs (d :: r) = mkdirs (mkdirStep fs d) r := rfl
    rw [hstep]
    rcases ih (mkdirStep fs d) with h | ⟨hm, h1, h2⟩
    · rcases mkdirStep_get_mem fs d q with h' | ⟨he, h1', h2'⟩
      · left; rw [h, h']
      · right; exact ⟨by simp [he], h1', by rw [h, h2']⟩
    · rcases mkdirStep_get_mem fs d q with h' | ⟨_, _, h2'⟩
      · right; exact ⟨by simp [hm], by rw [← h', h1], h2⟩
      · rw [h2'] at h1; cases h1

end Rollback

namespace Spec
open FS

theorem mkdirs_get (ds : List Path) (fs : FS) (q : Path) :
    (mkdirs fs ds).get q = fs.get q ∨ (fs.get q = none ∧ (mkdirs fs ds).get q = some .dir) :=
  (Rollback.mkdirs_get_mem ds fs q).imp id And.right

/-- `mkdirs` never touches a regular file -/
theorem mkdirs_file (ds : List Path) (fs : FS) (q : Path) (b : String) (m : Nat)
    (h : fs.get q = some (.file b m)) : (mkdirs fs ds).get q = some (.file b m) := by
  rcases mkdirs_get ds fs q with h' | ⟨h1, _⟩
  · rw [h', h]
  · rw [h] at h1; cases h1

theorem rmdirStep_get (fs : FS) (d q : Path) :
    (rmdirStep fs d).get q = fs.get q ∨
      (q = d ∧ fs.get q = some .dir ∧ fs.childNames q = [] ∧ (rmdirStep fs d).get q = none) := by
  unfold rmdirStep
  cases h : fs.rmdir d with
  | error e => simp
  | ok fs' =>
    simp only
    rw [get_rmdir fs fs' d q h]
    by_cases hq : q = d
    · subst hq; right
      have := rmdir_was_empty_dir fs fs' q h
      simp [this.1, this.2]
    · left; simp [hq]

theorem foldl_rmdir_get (ds : List Path) (fs : FS) (q : Path) :
    (ds.foldl rmdirStep fs).get q = fs.get q ∨
      (q ∈ ds ∧ fs.get q = some .dir ∧ (ds.foldl rmdirStep fs).get q = none) := by
  induction ds generalizing fs with
  | nil => simp
  | cons d r ih =>
    simp only [List.foldl]
    rcases ih (rmdirStep fs d) with h | ⟨hm, h1, h2⟩
    · rcases rmdirStep_get fs d q with h' | ⟨he, h1', _, h2'⟩
      · left; rw [h, h']
      · right; exact ⟨by simp [he], h1', by rw [h, h2']⟩
    · rcases rmdirStep_get fs d q with h' | ⟨_, _, _, h2'⟩
      · right; exact ⟨by simp [hm], by rw [← h', h1], h2⟩
      · rw [h2'] at h1; cases h1

theorem rmEmpty_eq (fs : FS) (ds : List Path) :
    rmEmpty fs ds = (ds.mergeSort (fun a b => a.length ≥ b.length)).foldl rmdirStep fs := rfl

/-- `rmEmpty` removes only directories it was given, and never a regular file -/
theorem rmEmpty_get (ds : List Path) (fs : FS) (q : Path) :
    (rmEmpty fs ds).get q = fs.get q ∨
      (q ∈ ds ∧ fs.get q = some .dir ∧ (rmEmpty fs ds).get q = none) := by
  rw [rmEmpty_eq]
  rcases foldl_rmdir_get _ fs q with h | ⟨hm, h1, h2⟩
  · left; exact h
  · right; exact ⟨(List.mem_mergeSort).mp hm, h1, h2⟩

theorem rmEmpty_file (ds : List Path) (fs : FS) (q : Path) (b : String) (m : Nat)
    (h : fs.get q = some (.file b m)) : (rmEmpty fs ds).get q = some (.file b m) := by
  rcases rmEmpty_get ds fs q with h' | ⟨_, h1, _⟩
  · rw [h', h]
  · rw [h] at h1; cases h1

theorem rmEmpty_none (ds : List Path) (fs : FS) (q : Path) (h : fs.get q = none) :
    (rmEmpty fs ds).get q = none := by
  rcases rmEmpty_get ds fs q with h' | ⟨_, h1, _⟩
  · rw [h', h]
  · rw [h] at h1; cases h1

theorem dirsToMake_nil (vfs : FS) (cf : Path) (bl : List Path) : dirsToMake vfs cf bl [] = .ok [] := by
  rw [dirsToMake]; rfl

/-- one step of `_dirs_to_make`: nothing is to be made, or `d` is missing, may be made, and comes after what its
    parent needs -/
theorem dirsToMake_ok_inv {vfs : FS} {cf : Path} {bl : List Path} {d : Path} {made : List Path}
    (h : dirsToMake vfs cf bl d = .ok made) :
    made = [] ∨ ∃ r, dirsToMake vfs cf bl d.dropLast = .ok r ∧ made = r ++ [d] ∧ d ≠ [] ∧
      vfs.isDir d = false ∧ vfs.isFile d = false ∧ d ≠ cf ∧ d ∉ bl := by
  rw [dirsToMake] at h
  by_cases hd : d = []
  · rw [dif_pos hd] at h; cases h; exact .inl rfl
  rw [dif_neg hd] at h
  cases hdir : vfs.isDir d <;> rw [hdir] at h
  case true => cases h; exact .inl rfl
  cases hfile : vfs.isFile d <;> rw [hfile] at h
  case true => cases h
  by_cases hcf : d = cf
  · rw [if_pos hcf] at h; cases h
  rw [if_neg hcf] at h
  cases hbl : bl.contains d <;> rw [hbl] at h
  case true => cases h
  cases hr : dirsToMake vfs cf bl d.dropLast <;> rw [hr] at h
  · cases h
  cases h
  exact .inr ⟨_, rfl, rfl, hd, rfl, rfl, hcf, by simpa using hbl⟩

/-- every directory `_dirs_to_make` returns is an ancestor of `d` or `d` itself, is missing, and is neither the
    root, nor the cache file, nor blocked -/
theorem dirsToMake_mem {vfs : FS} {cf : Path} {bl : List Path} {d : Path} {made : List Path}
    (h : dirsToMake vfs cf bl d = .ok made) {x : Path} (hx : x ∈ made) :
    x <+: d ∧ x ≠ [] ∧ vfs.isDir x = false ∧ vfs.isFile x = false ∧ x ≠ cf ∧ x ∉ bl := by
  induction hn : d.length generalizing d made with
  | zero =>
    rw [List.length_eq_zero_iff.mp hn, dirsToMake_nil] at h
    cases h; cases hx
  | succ n ih =>
    rcases dirsToMake_ok_inv h with rfl | ⟨r, hr, rfl, hd, h1, h2, h3, h4⟩
    · cases hx
    · rcases List.mem_append.mp hx with hx | hx
      · have := ih hr hx (by rw [List.length_dropLast, hn]; rfl)
        exact ⟨this.1.trans (List.dropLast_prefix d), this.2⟩
      · rw [List.mem_singleton.mp hx]
        exact ⟨List.prefix_refl d, hd, h1, h2, h3, h4⟩

end Spec

open FS Spec

/-- what build functions see: the tree without the targets being built and without the cache file -/
theorem get_visible (s : SpecSt) (p : Path) :
    (visible s).get p = if (p ∈ s.inProg ∨ p = s.cacheFile) ∧ p ≠ [] then none else s.fs.get p := by
  unfold visible
  rw [get_erase, get_foldl_erase]
  by_cases hr : p = []
  · rw [if_neg (fun h => h.2 hr), if_neg (fun h => h.2 hr), if_neg (fun h => h.2 hr)]
  by_cases hc : p = s.cacheFile
  · rw [if_pos ⟨hc, hr⟩, if_pos ⟨.inr hc, hr⟩]
  · rw [if_neg (fun h => hc h.1)]
    by_cases hi : p ∈ s.inProg
    · rw [if_pos ⟨hi, hr⟩, if_pos ⟨.inl hi, hr⟩]
    · rw [if_neg (fun h => hi h.1), if_neg (fun h => h.1.elim hi hc)]

theorem mkdirs_file_rev (ds : List Path) (fs : FS) (q : Path) (b : String) (m : Nat)
    (h : (mkdirs fs ds).get q = some (.file b m)) : fs.get q = some (.file b m) := by
  rcases mkdirs_get ds fs q with h' | ⟨_, h2⟩
  · rw [← h', h]
  · rw [h] at h2; cases h2

theorem rmEmpty_file_rev (ds : List Path) (fs : FS) (q : Path) (b : String) (m : Nat)
    (h : (rmEmpty fs ds).get q = some (.file b m)) : fs.get q = some (.file b m) := by
  rcases rmEmpty_get ds fs q with h' | ⟨_, _, h2⟩
  · rw [← h', h]
  · rw [h] at h2; cases h2

theorem get_erase_some (fs : FS) (q p : Path) (e : Entry) (h : (fs.erase q).get p = some e) :
    fs.get p = some e := by
  rw [get_erase] at h
  split at h
  · cases h
  · exact h

theorem visible_get_some (s : SpecSt) (p : Path) (e : Entry) (h : (visible s).get p = some e) :
    s.fs.get p = some e := by
  rw [get_visible] at h
  split at h
  · cases h
  · exact h

theorem mkdirStep_makes (fs : FS) (d : Path) (hd : d ≠ []) (hp : fs.isDir d.dropLast = true) (ha : fs.get d = none) :
    (mkdirStep fs d).get d = some .dir ∧ ∀ q, q ≠ d → (mkdirStep fs d).get q = fs.get q := by
  have hpar : fs.get (FS.parent d) = some .dir := by
    unfold FS.isDir at hp
    unfold FS.parent
    cases hg : fs.get d.dropLast with
    | none => simp [hg] at hp
    | some e => cases e with
      | dir => rfl
      | file c m => simp [hg] at hp
  have hmk : fs.mkdir d = .ok (fs.set d .dir) := by
    unfold FS.mkdir
    simp [hd, hpar, ha]
  unfold mkdirStep
  rw [hmk]
  exact ⟨get_set_self _ _ _ hd, fun q hq => get_set_ne _ _ _ _ hq⟩

/-- making the directories `_dirs_to_make` lists, in order, makes every one of them a directory (and keeps the
    directories that were there) -/
theorem mkdirs_dirsToMake (vfs : FS) (cf : Path) (bl : List Path) : ∀ (n : Nat) (d : Path) (ds : List Path) (fs : FS),
    d.length = n → dirsToMake vfs cf bl d = .ok ds → (∀ a, vfs.isDir a = true → fs.isDir a = true) →
    (∀ x ∈ ds, fs.get x = none) →
    (mkdirs fs ds).isDir d = true ∧ (∀ x ∈ ds, (mkdirs fs ds).isDir x = true) ∧
      (∀ q, fs.isDir q = true → (mkdirs fs ds).isDir q = true) := by
  intro n
  induction n with
  | zero =>
    intro d ds fs hl h _ _
    have : d = [] := List.length_eq_zero_iff.mp hl
    subst this
    rw [dirsToMake] at h
    simp at h; subst h
    exact ⟨by simp [mkdirs, FS.isDir, get_nil], (fun x hx => nomatch hx), fun q hq => hq⟩
  | succ n ih =>
    intro d ds fs hl h hv habs
    have hd : d ≠ [] := by intro e; subst e; simp at hl
    rw [dirsToMake] at h
    simp only [hd, dite_false] at h
    by_cases h1 : vfs.isDir d = true
    · simp only [h1, if_true, Except.ok.injEq] at h
      subst h
      exact ⟨hv d h1, (fun x hx => nomatch hx), fun q hq => hq⟩
    · simp only [h1, Bool.false_eq_true, if_false] at h
      split at h; · cases h
      split at h; · cases h
      split at h; · cases h
      cases hr : dirsToMake vfs cf bl d.dropLast with
      | error e => rw [hr] at h; cases h
      | ok r =>
        rw [hr] at h
        simp only [Except.ok.injEq] at h
        subst h
        have hrabs : ∀ x ∈ r, fs.get x = none := fun x hx => habs x (List.mem_append_left _ hx)
        obtain ⟨i1, i2, i3⟩ := ih d.dropLast r fs (by simp [List.length_dropLast, hl]) hr hv hrabs
        have hstep : mkdirs fs (r ++ [d]) = mkdirStep (mkdirs fs r) d := by simp [mkdirs, List.foldl_append]
        rw [hstep]
        have hdr : d ∉ r := by
          intro hm
          have := (dirsToMake_mem hr hm).1.length_le
          rw [List.length_dropLast] at this
          have : d.length ≠ 0 := by simpa using hd
          omega
        have hda : (mkdirs fs r).get d = none := by
          rcases Rollback.mkdirs_get_mem r fs d with h' | ⟨hm, _, _⟩
          · rw [h']; exact habs d (by simp)
          · exact absurd hm hdr
        obtain ⟨m1, m2⟩ := mkdirStep_makes (mkdirs fs r) d hd i1 hda
        refine ⟨FS.isDir_iff.mpr m1, ?_, ?_⟩
        · intro x hx
          rcases List.mem_append.mp hx with hx | hx
          · have hne : x ≠ d := fun e => hdr (e ▸ hx)
            unfold FS.isDir; rw [m2 x hne]; exact i2 x hx
          · simp only [List.mem_singleton] at hx; subst hx; exact FS.isDir_iff.mpr m1
        · intro q hq
          by_cases hqd : q = d
          · subst hqd; exact FS.isDir_iff.mpr m1
          · unfold FS.isDir; rw [m2 q hqd]; exact i3 q hq

theorem visible_isDir (sp : SpecSt) (a : Path) (h : (visible sp).isDir a = true) : sp.fs.isDir a = true := by
  unfold FS.isDir at h ⊢
  cases hg : (visible sp).get a with
  | none => simp [hg] at h
  | some e =>
    rw [visible_get_some sp a e hg]
    rw [hg] at h; exact h

/-- `_dirs_to_make` never lists the cache file -/
theorem dirsToMake_not_cf (vfs : FS) (cf : Path) (bl : List Path) : ∀ (n : Nat) (d : Path) (ds : List Path),
    d.length = n → dirsToMake vfs cf bl d = .ok ds → cf ∈ ds → False :=
  fun _ _ _ _ h hm => (dirsToMake_mem h hm).2.2.2.2.1 rfl

theorem mem_dedup (ps : List Path) (q : Path) : q ∈ dedup ps ↔ q ∈ ps := by
  unfold dedup
  have : ∀ (acc : List Path), q ∈ ps.foldl (fun acc p => if acc.contains p then acc else acc ++ [p]) acc ↔
      q ∈ acc ∨ q ∈ ps := by
    induction ps with
    | nil => intro acc; simp
    | cons p r ih =>
      intro acc
      simp only [List.foldl]
      rw [ih]
      by_cases hc : acc.contains p = true
      · simp only [hc, if_true, List.mem_cons]
        have : p ∈ acc := by simpa using hc
        constructor
        · rintro (h | h)
          · exact Or.inl h
          · exact Or.inr (Or.inr h)
        · rintro (h | h | h)
          · exact Or.inl h
          · subst h; exact Or.inl this
          · exact Or.inr h
      · have hc' : acc.contains p = false := by simpa using hc
        simp only [hc', Bool.false_eq_true, if_false, List.mem_append, List.mem_cons, List.not_mem_nil, or_false]
        constructor
        · rintro ((h | h) | h)
          · exact Or.inl h
          · exact Or.inr (Or.inl h)
          · exact Or.inr (Or.inr h)
        · rintro (h | h | h)
          · exact Or.inl (Or.inl h)
          · exact Or.inl (Or.inr h)
          · exact Or.inr h
  simpa using this []

/-- the state in which the function of a subbuild starts -/
def subStart (sp : SpecSt) (fname : String) (args kwargs : Json) : SpecSt :=
  { sp with
    claimedSubs := subKey fname args kwargs :: sp.claimedSubs
    invLog := ⟨fname, none, args, kwargs⟩ :: sp.invLog }

namespace Spec

variable {t : Option Path} {s : SpecSt} {path : Path} {cmp : Cmp} {fname : String} {args kwargs : Json} {body : Prog}
  {k : CallRes → Prog}

theorem run_bf_refused {e : Exc} (h : bfSetup s path = .error e) :
    run (.buildFile path cmp fname args kwargs body k) t s =
      (let rest := run (k (.error e)) t (setupFailState s path e)
       (rest.1, rest.2.1, CallNode.mk fname (some path) args kwargs ("setup:" ++ e.cls) [] :: rest.2.2)) := by
  rw [run, h]

theorem run_bf_ok {s1 : SpecSt} {made : List Path} (h : bfSetup s path = .ok (s1, made)) :
    run (.buildFile path cmp fname args kwargs body k) t s =
      (let out := run body (some path) { s1 with invLog := ⟨fname, some path, args, kwargs⟩ :: s1.invLog }
       let fin := bfFinish out.2.1 path made out.1
       let rest := run (k fin.1) t fin.2
       (rest.1, rest.2.1, CallNode.mk fname (some path) args kwargs (statusOf fin.1) out.2.2 :: rest.2.2)) := by
  rw [run, h]

theorem run_sb_dup (h1 : s.claimedSubs.any (heq (subKey fname args kwargs)) = true) :
    run (.subbuild fname args kwargs body k) t s =
      (let rest := run (k (.error (.runtime .dupSub))) t s
       (rest.1, rest.2.1, CallNode.mk fname none args kwargs "setup:RuntimeError" [] :: rest.2.2)) := by
  rw [run]; simp only [h1, if_true]

theorem run_sb_fault (h1 : s.claimedSubs.any (heq (subKey fname args kwargs)) = false)
    (h2 : s.failSubs.any (heq (subKey fname args kwargs)) = true) :
    run (.subbuild fname args kwargs body k) t s =
      (let rest := run (k (.error (.os .other))) t (consumeSubFault s (subKey fname args kwargs))
       (rest.1, rest.2.1, CallNode.mk fname none args kwargs "setup:OSError" [] :: rest.2.2)) := by
  rw [run]; simp only [h1, h2, if_true, Bool.false_eq_true, if_false]

theorem run_sb_run (h1 : s.claimedSubs.any (heq (subKey fname args kwargs)) = false)
    (h2 : s.failSubs.any (heq (subKey fname args kwargs)) = false) :
    run (.subbuild fname args kwargs body k) t s =
      (let out := run body none (subStart s fname args kwargs)
       let rest := run (k out.1) t out.2.1
       (rest.1, rest.2.1, CallNode.mk fname none args kwargs (statusOf out.1) out.2.2 :: rest.2.2)) := by
  rw [run]; simp only [h1, h2, Bool.false_eq_true, if_false, subStart]

/-- the outcome of the root function as `build` sees it: with `abort = 2` the cache write fails after a success -/
def rootRes (abort : Nat) (r0 : CallRes) : CallRes :=
  match r0 with | .ok v => if abort = 2 then .error (.os .other) else .ok v | e => e

section buildGo
variable {w : World} {cf : Path} {name : String} {root : Prog} {ff : List Path} {fsb : List H} {ab : Nat} {old : Rec}

theorem buildGo_nodirs {e : OSErr}
    (h : (if ab = 1 then .error .other else dirsToMake (visible (buildStart w cf ff fsb old [])) cf [] cf.dropLast) = .error e) :
    buildGo w cf name root ff fsb ab old =
      { res := .error (.os e),
        world := { w with fs := mkdirs w.fs (old.createdDirs.mergeSort (fun a b => a.length ≤ b.length)) } } := by
  unfold buildGo; simp only [h]

/-- once the directories for the cache file are made, the outcome of the root function decides: roll back or commit -/
theorem buildGo_dirs {cds : List Path}
    (h : (if ab = 1 then .error .other else dirsToMake (visible (buildStart w cf ff fsb old [])) cf [] cf.dropLast) = .ok cds) :
    buildGo w cf name root ff fsb ab old =
      (let out := run root none (buildStart w cf ff fsb old cds)
       match rootRes ab out.1 with
       | .error e =>
         { res := .error e,
           world := { w with fs := mkdirs w.fs (old.createdDirs.mergeSort (fun a b => a.length ≤ b.length)),
                             clock := out.2.1.clock },
           invLog := out.2.1.invLog.reverse, obligation := out.2.1.obligation, trace := out.2.2 }
       | .ok v =>
         let rec_ : Rec := { buildName := name, outputs := out.2.1.outputs.reverse,
                             createdDirs := dedup (out.2.1.createdDirs.reverse ++ cds) }
         { res := .ok v,
           world := { w with fs := out.2.1.fs.write cf (cacheToken w.nextSerial) 0, recs := (w.nextSerial, rec_) :: w.recs,
                             nextSerial := w.nextSerial + 1, clock := out.2.1.clock },
           invLog := out.2.1.invLog.reverse, obligation := out.2.1.obligation, trace := out.2.2 }) := by
  unfold buildGo; simp only [h]; rfl

end buildGo

end Spec
end FB

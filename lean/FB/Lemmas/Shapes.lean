/-
  On the values the simple operations record, JSON equality (`isEqual`) is equality: two recorded
  answers that compare equal were the same answer.
-/
import FB.View
namespace FB

theorem Num.eq_int (a b : Int) : (Num.int a).eq (Num.int b) = true ↔ a = b := by
  simp [Num.eq, Num.key]

theorem isEqualL_strs (l l0 : List String) (h : isEqualL (l.map .str) (l0.map .str) = true) : l = l0 := by
  induction l generalizing l0 with
  | nil => cases l0 with
    | nil => rfl
    | cons _ _ => simp [isEqualL] at h
  | cons x r ih => cases l0 with
    | nil => simp [isEqualL] at h
    | cons y r0 =>
      simp only [List.map, isEqualL, isEqual, Bool.and_eq_true, beq_iff_eq] at h
      rw [h.1, ih r0 h.2]

theorem isEqual_strArr (l l0 : List String) (h : isEqual (strArr l) (strArr l0) = true) : l = l0 := by
  simp only [strArr, isEqual] at h
  exact isEqualL_strs l l0 h

/-- one entry of a `walk` result -/
def walkEntry (p : String) (ds fs : List String) : Json := .tup [.str p, strArr ds, strArr fs]

theorem isEqual_walkEntry (p p0 : String) (ds ds0 fs fs0 : List String)
    (h : isEqual (walkEntry p ds fs) (walkEntry p0 ds0 fs0) = true) : p = p0 ∧ ds = ds0 ∧ fs = fs0 := by
  simp only [walkEntry, isEqual, isEqualL, Bool.and_eq_true, beq_iff_eq, Bool.and_true] at h
  exact ⟨h.1, isEqual_strArr _ _ h.2.1, isEqual_strArr _ _ h.2.2⟩

def IsWalkList (l : List Json) : Prop := ∀ x ∈ l, ∃ p ds fs, x = walkEntry p ds fs

theorem isEqualL_walk (l l0 : List Json) (hl : IsWalkList l) (hl0 : IsWalkList l0)
    (h : isEqualL l l0 = true) : l = l0 := by
  induction l generalizing l0 with
  | nil => cases l0 with
    | nil => rfl
    | cons _ _ => simp [isEqualL] at h
  | cons x r ih => cases l0 with
    | nil => simp [isEqualL] at h
    | cons y r0 =>
      simp only [isEqualL, Bool.and_eq_true] at h
      obtain ⟨p, ds, fs, rfl⟩ := hl x (by simp)
      obtain ⟨p0, ds0, fs0, rfl⟩ := hl0 y (by simp)
      obtain ⟨h1, h2, h3⟩ := isEqual_walkEntry _ _ _ _ _ _ h.1
      subst h1 h2 h3
      rw [ih r0 (fun z hz => hl z (List.mem_cons_of_mem _ hz)) (fun z hz => hl0 z (List.mem_cons_of_mem _ hz)) h.2]

theorem isWalkList_walkAux (fuel : Nat) (fs : FS) (d : Path) (td : Bool) :
    IsWalkList (View.walkAux fuel fs d td) := by
  induction fuel generalizing d with
  | zero => intro x hx; simp [View.walkAux] at hx
  | succ n ih =>
    intro x hx
    simp only [View.walkAux] at hx
    have hbelow : ∀ y, y ∈ (List.filter (fun n => !fs.isFile (d ++ [n]) && fs.isDir (d ++ [n])) (View.names fs d)).flatMap
        (fun m => View.walkAux n fs (d ++ [m]) td) → ∃ p ds fs', y = walkEntry p ds fs' := by
      intro y hy
      obtain ⟨m, _, hm⟩ := List.mem_flatMap.mp hy
      exact ih _ y hm
    split at hx
    · rcases List.mem_cons.mp hx with rfl | hx
      · exact ⟨_, _, _, rfl⟩
      · exact hbelow x hx
    · rcases List.mem_append.mp hx with hx | hx
      · exact hbelow x hx
      · simp at hx; subst hx; exact ⟨_, _, _, rfl⟩

theorem isWalkList_walk (fs : FS) (d : Path) (td : Bool) : IsWalkList (View.walk fs d td) := by
  unfold View.walk
  split
  · exact isWalkList_walkAux _ _ _ _
  · intro x hx; cases hx

/-- for every query except `read`, two recorded values that are JSON-equal are equal -/
theorem recVal_isEqual_eq (ds : Nat) (f f0 : FS) (q : Query) (v v0 : Json)
    (hq : ∀ p c, q ≠ .read p c)
    (h : View.recVal ds f q = .ok v) (h0 : View.recVal ds f0 q = .ok v0)
    (he : isEqual v v0 = true) : v = v0 := by
  cases q with
  | isFile p =>
    simp [View.recVal] at h h0; subst h h0
    simp [isEqual] at he; rw [he]
  | isDir p =>
    simp [View.recVal] at h h0; subst h h0
    simp [isEqual] at he; rw [he]
  | exists_ p =>
    simp [View.recVal] at h h0; subst h h0
    simp [isEqual] at he; rw [he]
  | listDir p =>
    simp only [View.recVal] at h h0
    cases hl : View.listDir f p with
    | error e => simp [hl] at h
    | ok l =>
      cases hl0 : View.listDir f0 p with
      | error e => simp [hl0] at h0
      | ok l0 =>
        simp [hl] at h; simp [hl0] at h0
        subst h h0
        rw [isEqual_strArr _ _ he]
  | walk p td =>
    simp [View.recVal] at h h0; subst h h0
    simp only [isEqual] at he
    rw [isEqualL_walk _ _ (isWalkList_walk _ _ _) (isWalkList_walk _ _ _) he]
  | getSize p =>
    simp only [View.recVal] at h h0
    cases hl : View.getSize ds f p with
    | error e => simp [hl] at h
    | ok n =>
      cases hl0 : View.getSize ds f0 p with
      | error e => simp [hl0] at h0
      | ok n0 =>
        simp [hl] at h; simp [hl0] at h0
        subst h h0
        simp only [isEqual] at he
        have := (Num.eq_int _ _).mp he
        rw [this]
  | read p c => exact absurd rfl (hq p c)

/-- equal HASH comparison results come from equal bytes (SHA-256 modelled as injective) -/
theorem cmpResult_hash_inj (b b0 : String) (m m0 : Nat)
    (h : isEqual (View.cmpResult .hash b m) (View.cmpResult .hash b0 m0) = true) : b = b0 := by
  simp only [View.cmpResult, isEqual, beq_iff_eq] at h
  have : ("sha:" ++ b).toList = ("sha:" ++ b0).toList := by rw [h]
  simp only [String.toList_append, List.append_cancel_left_eq] at this
  exact String.ext this

end FB

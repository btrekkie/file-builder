/-
  Helper lemmas about FB.Json: well-formed values and `dictSet`.
-/
import FB.Json
namespace FB

/-- keys of an object are pairwise distinct -/
def keysDistinct : List (String × Json) → Bool
  | [] => true
  | (k, _) :: r => !(r.any (fun x => x.1 == k)) && keysDistinct r

mutual
/-- "sanitized": what `json.loads(json.dumps(v))` can return — no tuples, distinct keys -/
def Json.wf : Json → Bool
  | .arr xs => Json.wfL xs
  | .tup _ => false
  | .obj kvs => Json.wfO kvs && keysDistinct kvs
  | _ => true
def Json.wfL : List Json → Bool
  | [] => true
  | x :: xs => x.wf && Json.wfL xs
def Json.wfO : List (String × Json) → Bool
  | [] => true
  | (_, v) :: r => v.wf && Json.wfO r
end

def hasKey (k : String) (kvs : List (String × Json)) : Bool := kvs.any (fun x => x.1 == k)

theorem hasKey_cons (k k' : String) (v : Json) (r : List (String × Json)) :
    hasKey k ((k', v) :: r) = (k' == k || hasKey k r) := rfl

theorem hasKey_append (k : String) (a b : List (String × Json)) : hasKey k (a ++ b) = (hasKey k a || hasKey k b) :=
  List.any_append

theorem hasKey_dictSet (k k' : String) (v : Json) (acc : List (String × Json)) :
    hasKey k' (dictSet k v acc) = (hasKey k' acc || k == k') := by
  induction acc with
  | nil => simp [dictSet, hasKey]
  | cons a r ih =>
    obtain ⟨ka, va⟩ := a
    simp only [dictSet]
    split
    · rename_i h; subst h; simp [hasKey, List.any_cons, Bool.or_comm]
    · simp only [hasKey, List.any_cons] at ih ⊢
      rw [ih]; simp [Bool.or_assoc]

theorem keysDistinct_dictSet (k : String) (v : Json) (acc : List (String × Json))
    (h : keysDistinct acc = true) : keysDistinct (dictSet k v acc) = true := by
  induction acc with
  | nil => simp [dictSet, keysDistinct]
  | cons a r ih =>
    obtain ⟨ka, va⟩ := a
    simp only [keysDistinct, Bool.and_eq_true, Bool.not_eq_true'] at h
    simp only [dictSet]
    split
    · rename_i hk; subst hk
      simp only [keysDistinct, Bool.and_eq_true, Bool.not_eq_true']
      exact h
    · rename_i hk
      simp only [keysDistinct, Bool.and_eq_true, Bool.not_eq_true']
      refine ⟨?_, ih h.2⟩
      have := hasKey_dictSet k ka v r
      simp only [hasKey] at this
      rw [this, h.1]
      simp; exact hk

theorem wfO_dictSet (k : String) (v : Json) (acc : List (String × Json))
    (hv : v.wf = true) (h : Json.wfO acc = true) : Json.wfO (dictSet k v acc) = true := by
  induction acc with
  | nil => simp [dictSet, Json.wfO, hv]
  | cons a r ih =>
    obtain ⟨ka, va⟩ := a
    simp only [Json.wfO, Bool.and_eq_true] at h
    simp only [dictSet]
    split
    · simp [Json.wfO, hv, h.2]
    · simp [Json.wfO, h.1, ih h.2]

theorem dictSet_append_of_not_hasKey (k : String) (v : Json) (acc : List (String × Json))
    (h : hasKey k acc = false) : dictSet k v acc = acc ++ [(k, v)] := by
  induction acc with
  | nil => simp [dictSet]
  | cons a r ih =>
    obtain ⟨ka, va⟩ := a
    simp only [hasKey, List.any_cons, Bool.or_eq_false_iff] at h
    simp only [dictSet]
    have hne : ¬ k = ka := by
      intro e; subst e; simp at h
    simp only [hne, if_false, List.cons_append]
    congr 1
    exact ih (by simpa [hasKey] using h.2)

end FB

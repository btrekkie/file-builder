/-
  `sortStrs` (the model of `sorted(os.listdir(d))`) depends only on the set of names.
  Uses Mathlib's linear order on `String` (core `<`).
-/
import Mathlib.Data.String.Basic
import FB.FS
namespace FB
namespace FS

theorem mem_insertStr' (s n : String) (l : List String) : n ∈ insertStr s l ↔ n = s ∨ n ∈ l := by
  induction l with
  | nil => simp [insertStr]
  | cons t r ih =>
    simp only [insertStr]
    split
    · simp
    · split
      · rename_i h; subst h; simp
      · simp [ih, or_left_comm]

theorem mem_sortStrs' (n : String) (l : List String) : n ∈ sortStrs l ↔ n ∈ l := by
  induction l with
  | nil => simp [sortStrs]
  | cons t r ih => simp [sortStrs, mem_insertStr', ih]

theorem pairwise_insertStr (s : String) (l : List String) (h : l.Pairwise (· < ·)) :
    (insertStr s l).Pairwise (· < ·) := by
  induction l with
  | nil => simp [insertStr]
  | cons t r ih =>
    simp only [insertStr]
    rw [List.pairwise_cons] at h
    split
    · rename_i hst
      rw [List.pairwise_cons]
      refine ⟨?_, List.pairwise_cons.mpr h⟩
      intro x hx
      rcases List.mem_cons.mp hx with rfl | hx
      · exact hst
      · exact lt_trans hst (h.1 x hx)
    · split
      · exact List.pairwise_cons.mpr h
      · rename_i hst hne
        rw [List.pairwise_cons]
        refine ⟨?_, ih h.2⟩
        intro x hx
        rcases (mem_insertStr' s x r).mp hx with rfl | hx
        · exact lt_of_le_of_ne (not_lt.mp hst) (Ne.symm hne)
        · exact h.1 x hx

theorem pairwise_sortStrs (l : List String) : (sortStrs l).Pairwise (· < ·) := by
  induction l with
  | nil => simp [sortStrs]
  | cons t r ih => exact pairwise_insertStr t _ ih

theorem sortStrs_congr (l l' : List String) (h : ∀ n, n ∈ l ↔ n ∈ l') : sortStrs l = sortStrs l' := by
  have p1 := pairwise_sortStrs l
  have p2 := pairwise_sortStrs l'
  have nd : ∀ {m : List String}, m.Pairwise (· < ·) → m.Nodup := by
    intro m hm
    exact hm.imp (fun hab => ne_of_lt hab)
  apply List.Perm.eq_of_pairwise (le := (· < ·)) _ p1 p2
  · exact (List.perm_ext_iff_of_nodup (nd p1) (nd p2)).mpr (fun a => by
      rw [mem_sortStrs', mem_sortStrs', h])
  · intro a b _ _ hab hba
    exact absurd hab (lt_asymm hba)

end FS
end FB

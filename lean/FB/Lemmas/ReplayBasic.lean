/-
  Basic facts about `Impl.replayOp` / `replayOps`: what replay leaves alone.
-/
import FB.Lemmas.Replay
namespace FB
open FS Spec

theorem replayOps_cons (o : Op) (os : List Op) (s s' : KSt) :
    Impl.replayOps (o :: os) s = some s' ↔
      ∃ sm, Impl.replayOp o s = some sm ∧ Impl.replayOps os sm = some s' := by
  simp only [Impl.replayOps]
  cases h : Impl.replayOp o s with
  | none => simp
  | some sm => simp

/-- the state in which the records inside a `build_file` record are replayed -/
def replayS1 (s : KSt) (path : Path) (made : List Path) (raised : Bool) : KSt :=
  let sp := s.sp
  { s with
    shelf := if raised then s.shelf else s.shelf.filter (fun x => !(made.contains x.1))
    sp := { sp with
      fs := Spec.mkdirs sp.fs made, claimedFiles := path :: sp.claimedFiles, inProg := path :: sp.inProg } }

theorem replayOp_buildFile (path : Path) (cmp : Cmp) (fname : String) (args kwargs : Json)
    (subs : List Op) (ret cmpRes : Json) (raised sf : Bool) (content : String) (s : KSt) :
    Impl.replayOp (.buildFile path cmp fname args kwargs subs ret cmpRes raised sf content) s =
      if !Impl.versionOk s fname then none
      else if !raised && !Impl.outputMatches s path cmp cmpRes then none
      else if sf then none
      else if s.sp.claimedFiles.contains path || path == s.sp.cacheFile then none
      else if (s.sp.fs.get path).isSome then none
      else match Spec.dirsToMake (Spec.visible s.sp) s.sp.cacheFile s.sp.inProg path.dropLast with
        | .error _ => none
        | .ok made =>
          if made.any Path.tooLong then none else
          match Impl.replayOps subs (replayS1 s path made raised) with
          | none => none
          | some s2 => if raised then some (Impl.unwind s2 path made) else some (Impl.adopt s2 path made) := by
  rw [Impl.replayOp]; rfl

theorem replayOp_buildFile_some (path : Path) (cmp : Cmp) (fname : String) (args kwargs : Json)
    (subs : List Op) (ret cmpRes : Json) (raised sf : Bool) (content : String) (s s' : KSt)
    (h : Impl.replayOp (.buildFile path cmp fname args kwargs subs ret cmpRes raised sf content) s = some s') :
    Impl.versionOk s fname = true ∧ (raised = false → Impl.outputMatches s path cmp cmpRes = true) ∧
    sf = false ∧ ¬ path ∈ s.sp.claimedFiles ∧ path ≠ s.sp.cacheFile ∧ s.sp.fs.get path = none ∧
    ∃ made s2, Spec.dirsToMake (Spec.visible s.sp) s.sp.cacheFile s.sp.inProg path.dropLast = .ok made ∧
      made.any Path.tooLong = false ∧
      Impl.replayOps subs (replayS1 s path made raised) = some s2 ∧
      s' = (if raised then Impl.unwind s2 path made else Impl.adopt s2 path made) := by
  rw [replayOp_buildFile] at h
  -- one test after the other (splitting the whole chain at once is slow to check); where a test fails `h` reads
  -- `none = some s'`
  cases hv : Impl.versionOk s fname <;> rw [hv] at h
  · cases h
  cases hm : !raised && !Impl.outputMatches s path cmp cmpRes <;> rw [hm] at h
  swap; · cases h
  cases sf
  swap; · cases h
  cases hcl : s.sp.claimedFiles.contains path || path == s.sp.cacheFile <;> rw [hcl] at h
  swap; · cases h
  cases hab : s.sp.fs.get path <;> rw [hab] at h
  swap; · cases h
  cases hdm : Spec.dirsToMake (Spec.visible s.sp) s.sp.cacheFile s.sp.inProg path.dropLast <;> rw [hdm] at h
  · cases h
  rename_i made
  cases hlong : made.any Path.tooLong <;> simp only [hlong] at h
  swap; · cases h
  cases hs2 : Impl.replayOps subs (replayS1 s path made raised) <;> rw [hs2] at h
  · cases h
  rename_i s2
  obtain ⟨hc1, hc2⟩ := Bool.or_eq_false_iff.mp hcl
  refine ⟨rfl, ?_, rfl, by simpa using hc1, by simpa using hc2, rfl, made, s2, rfl, hlong, hs2, ?_⟩
  · intro hr; rw [hr] at hm; simpa using hm
  · cases raised <;> cases h <;> rfl

theorem replayOp_subbuild (fname : String) (args kwargs : Json) (subs : List Op) (ret : Json)
    (raised sf : Bool) (s : KSt) :
    Impl.replayOp (.subbuild fname args kwargs subs ret raised sf) s =
      if !Impl.versionOk s fname || sf then none
      else if s.sp.claimedSubs.any (heq (subKey fname args kwargs)) then none
      else Impl.replayOps subs (Impl.subClaim s (subKey fname args kwargs)) := by
  rw [Impl.replayOp]; rfl

theorem replayOp_subbuild_some (fname : String) (args kwargs : Json) (subs : List Op) (ret : Json)
    (raised sf : Bool) (s s' : KSt)
    (h : Impl.replayOp (.subbuild fname args kwargs subs ret raised sf) s = some s') :
    Impl.versionOk s fname = true ∧ sf = false ∧
    (s.sp.claimedSubs.any (heq (subKey fname args kwargs))) = false ∧
    Impl.replayOps subs (Impl.subClaim s (subKey fname args kwargs)) = some s' := by
  rw [replayOp_subbuild] at h
  cases hv : Impl.versionOk s fname <;> rw [hv] at h
  · cases h
  cases sf
  swap; · cases h
  cases hc : s.sp.claimedSubs.any (heq (subKey fname args kwargs)) <;> rw [hc] at h
  swap; · cases h
  exact ⟨rfl, rfl, rfl, h⟩

theorem dirsToMake_not_blocked (vfs : FS) (cf : Path) (bl : List Path) (d : Path) (made : List Path)
    (h : dirsToMake vfs cf bl d = .ok made) : ∀ x ∈ made, x ∉ bl :=
  fun _ hx => (dirsToMake_mem h hx).2.2.2.2.2

/-- the state is well formed: targets whose function is running are claimed -/
def KSt.WF (s : KSt) : Prop := ∀ p ∈ s.sp.inProg, p ∈ s.sp.claimedFiles

/-- what replay keeps of the state `s` it starts in.  `univ`: every regular file that exists physically afterwards
    (in the tree or as a leftover) existed before — replay moves content, it creates none.  `shelfInProg`: the
    leftover under a target whose record is being replayed survives the replay of the records inside it, so that
    `adopt` finds it. -/
structure Keeps (s s' : KSt) : Prop where
  old : s'.old = s.old
  newVersions : s'.newVersions = s.newVersions
  dirSize : s'.sp.dirSize = s.sp.dirSize
  cacheFile : s'.sp.cacheFile = s.sp.cacheFile
  failFiles : s'.sp.failFiles = s.sp.failFiles
  failSubs : s'.sp.failSubs = s.sp.failSubs
  inProg : s'.sp.inProg = s.sp.inProg
  claimed : ∀ p ∈ s.sp.claimedFiles, p ∈ s'.sp.claimedFiles
  univ : ∀ p b m, s'.InU p b m → s.InU p b m
  shelfInProg : ∀ p ∈ s.sp.inProg, s'.shelf.get p = s.shelf.get p

theorem Keeps.refl (s : KSt) : Keeps s s :=
  ⟨rfl, rfl, rfl, rfl, rfl, rfl, rfl, fun _ h => h, fun _ _ _ h => h, fun _ _ => rfl⟩

theorem Keeps.trans {s sm s' : KSt} (k1 : Keeps s sm) (k2 : Keeps sm s') : Keeps s s' :=
  ⟨k2.old.trans k1.old, k2.newVersions.trans k1.newVersions, k2.dirSize.trans k1.dirSize,
    k2.cacheFile.trans k1.cacheFile, k2.failFiles.trans k1.failFiles, k2.failSubs.trans k1.failSubs,
    k2.inProg.trans k1.inProg, fun p hp => k2.claimed p (k1.claimed p hp),
    fun p b m hu => k1.univ p b m (k2.univ p b m hu),
    fun p hp => (k2.shelfInProg p (k1.inProg ▸ hp)).trans (k1.shelfInProg p hp)⟩

theorem Keeps.wf {s s' : KSt} (k : Keeps s s') (h : s.WF) : s'.WF := by
  intro p hp
  rw [k.inProg] at hp
  exact k.claimed p (h p hp)

theorem replayS1_wf {s : KSt} (h : s.WF) (path : Path) (made : List Path) (raised : Bool) :
    (replayS1 s path made raised).WF := by
  intro p hp
  rcases List.mem_cons.mp hp with rfl | hp
  · exact List.mem_cons_self
  · exact List.mem_cons_of_mem _ (h p hp)

/-- the start of the replay of a `build_file` record moves leftovers aside; it creates no content -/
theorem replayS1_inU {s : KSt} {path : Path} {made : List Path} {raised : Bool} {p : Path} {b : String} {m : Nat}
    (hu : (replayS1 s path made raised).InU p b m) : s.InU p b m := by
  rcases hu with hu | hu
  · exact Or.inl (mkdirs_file_rev _ _ _ _ _ hu)
  · cases raised
    · exact Or.inr (get_filter_key_some s.shelf (fun q => !made.contains q) _ _ hu)
    · exact Or.inr hu

mutual
theorem replayOp_keeps : (o : Op) → (s s' : KSt) → s.WF → Impl.replayOp o s = some s' → Keeps s s'
  | .simple q ret exc ans, s, s', _, h => by
    obtain ⟨rfl, _⟩ := replayOp_simple_some _ _ _ _ _ _ h
    exact Keeps.refl _
  | .buildFile path cmp fname args kwargs subs ret cmpRes raised sf content, s, s', hwf, h => by
    obtain ⟨_, _, _, hncl, _, _, made, s2, hdm, _, hs2, hs'⟩ := replayOp_buildFile_some _ _ _ _ _ _ _ _ _ _ _ _ _ h
    have hwf1 := replayS1_wf hwf path made raised
    have k12 := replayOps_keeps subs (replayS1 s path made raised) s2 hwf1 hs2
    have hnb := dirsToMake_not_blocked _ _ _ _ _ hdm
    have u01 : ∀ p b m, (replayS1 s path made raised).InU p b m → s.InU p b m := fun _ _ _ => replayS1_inU
    have sh01 : ∀ p ∈ s.sp.inProg, (replayS1 s path made raised).shelf.get p = s.shelf.get p := by
      intro p hp
      simp only [replayS1]
      split
      · rfl
      · by_cases hr : p = []
        · subst hr; simp [get_nil]
        · rw [get_filter_key s.shelf (fun q => !made.contains q) _ hr]
          have hnm : p ∉ made := fun hm => hnb p hm hp
          simp [hnm]
    have hpne : ∀ p ∈ s.sp.inProg, p ≠ path := fun p hp e => hncl (e ▸ hwf p hp)
    subst hs'
    cases raised with
    | true =>
      simp only [if_true]
      refine ⟨k12.old, k12.newVersions, k12.dirSize, k12.cacheFile, k12.failFiles, k12.failSubs, ?_, ?_, ?_, ?_⟩
      · simp only [Impl.unwind]
        rw [k12.inProg]; simp [replayS1]
      · intro p hp
        simp only [Impl.unwind]
        exact k12.claimed p (by simp [replayS1, hp])
      · intro p b m hu
        apply u01; apply k12.univ
        rcases hu with hu | hu
        · exact Or.inl (rmEmpty_file_rev _ _ _ _ _ hu)
        · exact Or.inr (get_filter_key_some s2.shelf
            (fun q => !(made.contains q && (rmEmpty s2.sp.fs made).isDir q)) _ _ hu)
      · intro p hp
        rw [← sh01 p hp, ← k12.shelfInProg p (by simp [replayS1, hp])]
        simp only [Impl.unwind]
        by_cases hr : p = []
        · subst hr; simp [get_nil]
        · rw [get_filter_key s2.shelf (fun q => !(made.contains q && (rmEmpty s2.sp.fs made).isDir q)) _ hr]
          have hnm : p ∉ made := fun hm => hnb p hm hp
          simp [hnm]
    | false =>
      simp only [Bool.false_eq_true, if_false]
      refine ⟨k12.old, k12.newVersions, k12.dirSize, k12.cacheFile, k12.failFiles, k12.failSubs, ?_, ?_, ?_, ?_⟩
      · simp only [Impl.adopt]
        rw [k12.inProg]; simp [replayS1]
      · intro p hp
        simp only [Impl.adopt]
        exact k12.claimed p (by simp [replayS1, hp])
      · intro p b m hu
        apply u01; apply k12.univ
        simp only [Impl.adopt, KSt.InU] at hu
        rcases hu with hu | hu
        · cases hsh : s2.shelf.get path with
          | none => simp only [hsh] at hu; exact Or.inl hu
          | some e =>
            simp only [hsh] at hu
            by_cases hroot : path = []
            · simp only [hroot, if_true] at hu; exact Or.inl hu
            · simp only [hroot, if_false] at hu
              by_cases hpp : p = path
              · subst hpp
                rw [get_set_self _ _ _ hroot] at hu
                right; rw [hsh, hu]
              · rw [get_set_ne _ _ _ _ hpp] at hu; exact Or.inl hu
        · exact Or.inr (get_erase_some _ _ _ _ hu)
      · intro p hp
        rw [← sh01 p hp, ← k12.shelfInProg p (by simp [replayS1, hp])]
        simp only [Impl.adopt]
        exact get_erase_ne _ _ _ (hpne p hp)
  | .subbuild fname args kwargs subs ret raised sf, s, s', hwf, h => by
    obtain ⟨_, _, _, hs⟩ := replayOp_subbuild_some _ _ _ _ _ _ _ _ _ h
    have k := replayOps_keeps subs _ s' (by intro p hp; exact hwf p hp) hs
    exact ⟨k.old, k.newVersions, k.dirSize, k.cacheFile, k.failFiles, k.failSubs, k.inProg, k.claimed,
      k.univ, k.shelfInProg⟩
theorem replayOps_keeps : (os : List Op) → (s s' : KSt) → s.WF → Impl.replayOps os s = some s' → Keeps s s'
  | [], s, s', _, h => by
    simp [Impl.replayOps] at h; subst h; exact Keeps.refl _
  | o :: os, s, s', hwf, h => by
    obtain ⟨sm, h1, h2⟩ := (replayOps_cons o os s s').mp h
    have k1 := replayOp_keeps o s sm hwf h1
    exact k1.trans (replayOps_keeps os sm s' (k1.wf hwf) h2)
end

end FB

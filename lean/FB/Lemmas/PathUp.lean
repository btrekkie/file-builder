/-
  Facts about lists and paths that the analyses of `build_dirs.py` and `created_files.py` share: walking up a
  path with `dirname` (`List.dropLast`, the way all their loops recurse), association lists keyed by paths, sets
  kept as lists.
-/
import FB.FS
import Mathlib.Data.List.Basic
namespace FB

theorem dropLast_induction {P : Path → Prop} (h : ∀ p, (p ≠ [] → P p.dropLast) → P p) (p : Path) : P p := by
  induction hn : p.length generalizing p with
  | zero => exact h p (fun hne => absurd (List.length_eq_zero_iff.mp hn) hne)
  | succ n ih => exact h p (fun _ => ih _ (by rw [List.length_dropLast, hn]; rfl))

theorem prefix_dropLast_of_ne {d t : Path} (h : d <+: t) (hne : d ≠ t) : d <+: t.dropLast := by
  obtain ⟨r, hr⟩ := h
  have hrne : r ≠ [] := by intro e; subst e; simp at hr; exact hne hr
  rw [← hr, List.dropLast_append_of_ne_nil hrne]
  exact List.prefix_append _ _

/-- `set.add` on a list without duplicates -/
theorem mem_ite_cons (l : List Path) (p x : Path) : x ∈ (if l.contains p then l else p :: l) ↔ x ∈ l ∨ x = p := by
  split
  · rename_i h
    have : p ∈ l := by simpa using h
    exact ⟨Or.inl, fun h' => h'.elim id (fun e => e ▸ this)⟩
  · rw [List.mem_cons, or_comm]

theorem prefix_ne_of_prefix_dropLast {d q : Path} (hq : q ≠ []) (h : d <+: q.dropLast) : d <+: q ∧ d ≠ q := by
  refine ⟨h.trans (List.dropLast_prefix q), fun e => ?_⟩
  have h1 := h.length_le
  rw [e, List.length_dropLast] at h1
  have := List.length_pos_iff.mpr hq
  omega

theorem mem_take_succ_of_getElem? {α : Type} {l : List α} {j : Nat} {d : α} (h : l[j]? = some d) :
    d ∈ l.take (j + 1) := by
  rw [List.take_add_one, h]; simp

theorem find?_filter_ne {β : Type} (l : List (Path × β)) (d e : Path) (hne : e ≠ d) :
    (l.filter (fun x => x.1 ≠ d)).find? (fun x => x.1 = e) = l.find? (fun x => x.1 = e) := by
  rw [List.find?_filter]
  congr 1
  funext x
  by_cases he : x.1 = e
  · simp [he]
    exact fun h => absurd (he ▸ h) hne
  · simp [he]

theorem find?_filter_self {β : Type} (l : List (Path × β)) (d : Path) :
    (l.filter (fun x => x.1 ≠ d)).find? (fun x => x.1 = d) = none := by
  rw [List.find?_eq_none]
  intro x hx
  simp only [List.mem_filter] at hx
  simpa using hx.2

theorem length_dropLast_add_one {x : Path} (hx : x ≠ []) : x.dropLast.length + 1 = x.length := by
  have := List.length_pos_iff.mpr hx
  rw [List.length_dropLast]; omega

theorem prefix_same_length {a b p : Path} (ha : a <+: p) (hb : b <+: p) (hl : a.length = b.length) : a = b :=
  (List.prefix_of_prefix_length_le ha hb (by omega)).eq_of_length hl

theorem countP_erase_nodup (f : Path → Bool) (l : List Path) (x : Path) (hn : l.Nodup) (hx : x ∈ l) :
    (l.erase x).countP f + (if f x then 1 else 0) = l.countP f := by
  induction l with
  | nil => cases hx
  | cons a r ih =>
    have hn' := List.nodup_cons.mp hn
    by_cases ha : a = x
    · subst ha
      simp [List.countP_cons]
    · have hx' : x ∈ r := by
        rcases List.mem_cons.mp hx with h | h
        · exact absurd h.symm ha
        · exact h
      rw [List.erase_cons_tail (by simpa using ha)]
      simp only [List.countP_cons]
      have := ih hn'.2 hx'
      omega

theorem snoc_dropLast_getLast {p : Path} {base : String} (h : p.getLast? = some base) : p = p.dropLast ++ [base] := by
  have hne : p ≠ [] := by intro e; subst e; simp at h
  have := List.dropLast_append_getLast hne
  rw [List.getLast?_eq_some_getLast hne] at h
  injection h with h
  rw [← h]; exact this.symm

theorem snoc_inj {d e : Path} {n m : String} (h : d ++ [n] = e ++ [m]) : d = e ∧ n = m := by
  have := List.append_inj' h rfl
  exact ⟨this.1, by simpa using this.2⟩

theorem eq_nil_of_getLast? {p : Path} (h : p.getLast? = none) : p = [] := by
  cases p with
  | nil => rfl
  | cons a r => simp at h

end FB

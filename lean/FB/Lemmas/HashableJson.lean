/-
  Small facts about `toHO`, `keysDistinct` and the number tags of `toH`, for the proof in Props/C18 that equal
  hashable forms mean JSON-equal values.
-/
import FB.Lemmas.Hashable
namespace FB

theorem keysDistinct_iff_nodup (l : List (String × Json)) : keysDistinct l = true ↔ (keysOf l).Nodup := by
  induction l with
  | nil => simp [keysDistinct, keysOf]
  | cons x r ih =>
    obtain ⟨k, v⟩ := x
    simp only [keysDistinct, Bool.and_eq_true, Bool.not_eq_true', keysOf, List.map_cons, List.nodup_cons]
    rw [ih]
    constructor
    · rintro ⟨h1, h2⟩
      refine ⟨?_, h2⟩
      intro hm
      obtain ⟨y, hy, e⟩ := List.mem_map.mp hm
      have : (r.any fun x => x.1 == k) = true := List.any_eq_true.mpr ⟨y, hy, by simp [e]⟩
      rw [h1] at this; cases this
    · rintro ⟨h1, h2⟩
      refine ⟨?_, h2⟩
      cases ha : (r.any fun x => x.1 == k) with
      | false => rfl
      | true =>
        exfalso
        obtain ⟨y, hy, e⟩ := List.any_eq_true.mp ha
        exact h1 (List.mem_map.mpr ⟨y, hy, by simpa using e⟩)

theorem keysOf_toHO (l : List (String × Json)) : keysOf (toHO l) = keysOf l := by
  induction l with
  | nil => rfl
  | cons x r ih => obtain ⟨k, v⟩ := x; simp only [toHO, keysOf, List.map_cons] at ih ⊢; rw [ih]

theorem length_toHO (l : List (String × Json)) : (toHO l).length = l.length := by
  induction l with
  | nil => rfl
  | cons x r ih => obtain ⟨k, v⟩ := x; simp [toHO, ih]

theorem heqL_num_flatten (n : Num) (l : List H) (X : HA) : heqL (.num n :: l) (flattenKV X) = false := by
  cases X with
  | nil => simp [flattenKV, heqL]
  | cons x r => obtain ⟨k, h⟩ := x; simp [flattenKV, heqL, heq]

theorem heqL_flatten_num (n : Num) (l : List H) (X : HA) : heqL (flattenKV X) (.num n :: l) = false := by
  rw [heqL_symm]; exact heqL_num_flatten n l X

theorem numEq_01 : (Num.int 0).eq (Num.int 1) = false ∧ (Num.int 0).eq (Num.int 2) = false ∧
    (Num.int 1).eq (Num.int 0) = false ∧ (Num.int 2).eq (Num.int 0) = false ∧
    (Num.int 1).eq (Num.int 2) = false ∧ (Num.int 2).eq (Num.int 1) = false ∧
    (Num.int 0).eq (Num.int 0) = true ∧ (Num.int 1).eq (Num.int 1) = true ∧ (Num.int 2).eq (Num.int 2) = true := by
  decide

end FB

/-
  Trees "equal up to modification times of files": the relation between the tree of a from-scratch
  run (which rewrites every output) and the tree of a run that reuses outputs.  Every answer user
  code can see is invariant under it.
-/
import FB.Lemmas.Sort
import FB.Lemmas.Spec
namespace FB
open FS Spec

def Entry.sim : Option Entry → Option Entry → Prop
  | none, none => True
  | some .dir, some .dir => True
  | some (.file b _), some (.file b' _) => b = b'
  | _, _ => False

theorem Entry.sim_refl (e : Option Entry) : Entry.sim e e := by
  cases e with
  | none => trivial
  | some e => cases e <;> simp [Entry.sim]

/-- the three ways two entries can agree up to the modification time -/
theorem Entry.sim_cases {a b : Option Entry} (h : Entry.sim a b) :
    (a = none ∧ b = none) ∨ (a = some .dir ∧ b = some .dir) ∨
      ∃ c m m', a = some (.file c m) ∧ b = some (.file c m') := by
  cases a with
  | none =>
    cases b with
    | none => exact .inl ⟨rfl, rfl⟩
    | some y => cases y <;> exact h.elim
  | some x =>
    cases b with
    | none => cases x <;> exact h.elim
    | some y =>
      cases x with
      | dir => cases y with
        | dir => exact .inr (.inl ⟨rfl, rfl⟩)
        | file _ _ => exact h.elim
      | file c m => cases y with
        | dir => exact h.elim
        | file c' m' => cases (show c = c' from h); exact .inr (.inr ⟨c, m, m', rfl, rfl⟩)

theorem Entry.sim_isSome {a b : Option Entry} (h : Entry.sim a b) : a.isSome = b.isSome := by
  rcases Entry.sim_cases h with ⟨rfl, rfl⟩ | ⟨rfl, rfl⟩ | ⟨c, m, m', rfl, rfl⟩ <;> rfl

theorem Entry.sim_trans {a b c : Option Entry} (h1 : Entry.sim a b) (h2 : Entry.sim b c) : Entry.sim a c := by
  rcases Entry.sim_cases h1 with ⟨rfl, rfl⟩ | ⟨rfl, rfl⟩ | ⟨x, m, m', rfl, rfl⟩
  · exact h2
  · exact h2
  · rcases Entry.sim_cases h2 with ⟨hb, -⟩ | ⟨hb, -⟩ | ⟨y, n, n', hb, rfl⟩
    · cases hb
    · cases hb
    · cases hb; rfl

namespace FS

/-- same paths, same kinds, same bytes -/
def Sim (a b : FS) : Prop := ∀ p, Entry.sim (a.get p) (b.get p)

theorem Sim.refl (a : FS) : Sim a a := fun _ => Entry.sim_refl _

theorem Sim.isFile {a b : FS} (h : Sim a b) (p : Path) : a.isFile p = b.isFile p := by
  unfold FS.isFile
  rcases Entry.sim_cases (h p) with ⟨ha, hb⟩ | ⟨ha, hb⟩ | ⟨c, m, m', ha, hb⟩ <;> rw [ha, hb]

theorem Sim.isDir {a b : FS} (h : Sim a b) (p : Path) : a.isDir p = b.isDir p := by
  unfold FS.isDir
  rcases Entry.sim_cases (h p) with ⟨ha, hb⟩ | ⟨ha, hb⟩ | ⟨c, m, m', ha, hb⟩ <;> rw [ha, hb]

theorem Sim.isNone {a b : FS} (h : Sim a b) (p : Path) : a.get p = none ↔ b.get p = none := by
  have := Entry.sim_isSome (h p)
  cases ha : a.get p <;> cases hb : b.get p <;> simp_all

theorem Sim.erase {a b : FS} (h : Sim a b) (p : Path) : Sim (a.erase p) (b.erase p) := by
  intro q
  by_cases hq : q = p
  · subst hq
    by_cases hr : q = []
    · subst hr; simp [get_nil, Entry.sim]
    · simp [get_erase_self _ _ hr, Entry.sim]
  · rw [get_erase_ne _ _ _ hq, get_erase_ne _ _ _ hq]; exact h q

theorem Sim.eraseFile {a b : FS} (h : Sim a b) (p : Path) :
    Sim (if a.isFile p then a.erase p else a) (if b.isFile p then b.erase p else b) := by
  rw [h.isFile p]
  cases b.isFile p
  · exact h
  · exact h.erase p

theorem Sim.set {a b : FS} (h : Sim a b) (p : Path) (e e' : Entry) (he : Entry.sim (some e) (some e')) :
    Sim (a.set p e) (b.set p e') := by
  intro q
  by_cases hq : q = p
  · subst hq
    by_cases hr : q = []
    · subst hr; simp [get_nil, Entry.sim]
    · rw [get_set_self _ _ _ hr, get_set_self _ _ _ hr]; exact he
  · rw [get_set_ne _ _ _ _ hq, get_set_ne _ _ _ _ hq]; exact h q

theorem mem_childNames_iff_get (fs : FS) (d : Path) (n : String) :
    n ∈ fs.childNames d ↔ fs.get (d ++ [n]) ≠ none := by
  rw [FB.mem_childNames]
  constructor
  · rintro ⟨e, he⟩ hn
    have := get_isSome_of_mem fs _ e he
    rw [hn] at this; cases this
  · intro hne
    cases hg : fs.get (d ++ [n]) with
    | none => exact absurd hg hne
    | some e => exact ⟨e, mem_of_get fs _ e (by simp) hg⟩

theorem childNames_eq_nil_iff (fs : FS) (d : Path) :
    fs.childNames d = [] ↔ ∀ n, fs.get (d ++ [n]) = none := by
  rw [List.eq_nil_iff_forall_not_mem]
  exact forall_congr' fun n => by rw [mem_childNames_iff_get, not_not]

theorem Sim.childNames_nil {a b : FS} (h : Sim a b) (d : Path) :
    a.childNames d = [] ↔ b.childNames d = [] := by
  rw [childNames_eq_nil_iff, childNames_eq_nil_iff]
  constructor
  · intro ha n; exact (h.isNone _).mp (ha n)
  · intro hb n; exact (h.isNone _).mpr (hb n)

theorem Sim.mem_childNames {a b : FS} (h : Sim a b) (d : Path) (n : String) :
    n ∈ a.childNames d ↔ n ∈ b.childNames d := by
  rw [mem_childNames_iff_get, mem_childNames_iff_get, ne_eq, ne_eq, h.isNone]

theorem Sim.listdir {a b : FS} (h : Sim a b) (d : Path) : a.listdir d = b.listdir d := by
  unfold FS.listdir
  exact sortStrs_congr _ _ (fun n => h.mem_childNames d n)

theorem Sim.mkdir {a b : FS} (h : Sim a b) (p : Path) :
    (∃ e, a.mkdir p = .error e ∧ b.mkdir p = .error e) ∨
    (∃ a' b', a.mkdir p = .ok a' ∧ b.mkdir p = .ok b' ∧ Sim a' b') := by
  unfold FS.mkdir
  by_cases hp : p = []
  · left; exact ⟨.fileExists, by simp [hp], by simp [hp]⟩
  · simp only [hp, if_false]
    have hpar := h (parent p)
    have hself := h p
    cases ha : a.get (parent p) with
    | none =>
      cases hb : b.get (parent p) with
      | none => left; exact ⟨.notFound, rfl, rfl⟩
      | some y => rw [ha, hb] at hpar; cases y <;> simp [Entry.sim] at hpar
    | some x =>
      cases hb : b.get (parent p) with
      | none => rw [ha, hb] at hpar; cases x <;> simp [Entry.sim] at hpar
      | some y =>
        rw [ha, hb] at hpar
        cases x with
        | file _ _ => cases y with
          | file _ _ => left; exact ⟨.notADir, rfl, rfl⟩
          | dir => simp [Entry.sim] at hpar
        | dir => cases y with
          | file _ _ => simp [Entry.sim] at hpar
          | dir =>
            simp only
            cases hsa : a.get p with
            | none =>
              have hsb : b.get p = none := (h.isNone p).mp hsa
              right
              exact ⟨a.set p .dir, b.set p .dir, by simp, by simp [hsb], h.set p _ _ (by simp [Entry.sim])⟩
            | some z =>
              have : b.get p ≠ none := fun hn => by
                have := (h.isNone p).mpr hn; rw [hsa] at this; cases this
              cases hsb : b.get p with
              | none => exact absurd hsb this
              | some w => left; exact ⟨.fileExists, by simp, by simp⟩

theorem Sim.rmdir {a b : FS} (h : Sim a b) (p : Path) :
    (∃ e, a.rmdir p = .error e ∧ b.rmdir p = .error e) ∨
    (∃ a' b', a.rmdir p = .ok a' ∧ b.rmdir p = .ok b' ∧ Sim a' b') := by
  unfold FS.rmdir
  by_cases hp : p = []
  · left; exact ⟨.other, by simp [hp], by simp [hp]⟩
  · simp only [hp, if_false]
    have hself := h p
    cases ha : a.get p with
    | none =>
      have hb : b.get p = none := (h.isNone p).mp ha
      left; exact ⟨.notFound, by simp, by simp [hb]⟩
    | some x =>
      cases hb : b.get p with
      | none => rw [ha, hb] at hself; cases x <;> simp [Entry.sim] at hself
      | some y =>
        rw [ha, hb] at hself
        cases x with
        | file _ _ => cases y with
          | file _ _ => left; exact ⟨.notADir, rfl, rfl⟩
          | dir => simp [Entry.sim] at hself
        | dir => cases y with
          | file _ _ => simp [Entry.sim] at hself
          | dir =>
            simp only
            by_cases hc : a.childNames p = []
            · have hc' : b.childNames p = [] := (h.childNames_nil p).mp hc
              right; exact ⟨a.erase p, b.erase p, by simp [hc], by simp [hc'], h.erase p⟩
            · have hc' : ¬ b.childNames p = [] := fun hn => hc ((h.childNames_nil p).mpr hn)
              left; exact ⟨.other, by simp [hc], by simp [hc']⟩

end FS

namespace Spec

theorem sim_mkdirStep {a b : FS} (h : FS.Sim a b) (d : Path) : FS.Sim (mkdirStep a d) (mkdirStep b d) := by
  unfold mkdirStep
  rcases h.mkdir d with ⟨e, ha, hb⟩ | ⟨a', b', ha, hb, hs⟩
  · rw [ha, hb]; exact h
  · rw [ha, hb]; exact hs

theorem sim_mkdirs (ds : List Path) {a b : FS} (h : FS.Sim a b) : FS.Sim (mkdirs a ds) (mkdirs b ds) := by
  induction ds generalizing a b with
  | nil => exact h
  | cons d r ih => exact ih (sim_mkdirStep h d)

theorem sim_rmdirStep {a b : FS} (h : FS.Sim a b) (d : Path) : FS.Sim (rmdirStep a d) (rmdirStep b d) := by
  unfold rmdirStep
  rcases h.rmdir d with ⟨e, ha, hb⟩ | ⟨a', b', ha, hb, hs⟩
  · rw [ha, hb]; exact h
  · rw [ha, hb]; exact hs

theorem sim_rmEmpty (ds : List Path) {a b : FS} (h : FS.Sim a b) : FS.Sim (rmEmpty a ds) (rmEmpty b ds) := by
  unfold rmEmpty
  generalize (ds.mergeSort fun a b => decide (a.length ≥ b.length)) = l
  induction l generalizing a b with
  | nil => exact h
  | cons d r ih => exact ih (sim_rmdirStep h d)

end Spec
end FB

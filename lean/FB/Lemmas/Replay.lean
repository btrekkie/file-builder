/-
  Records that *follow* a program (`Follows`), the obligation the comparison modes put on the world
  (`FaithfulOp`), and replay of a recorded query.
-/
import FB.Lemmas.SimView
import FB.Lemmas.Shapes
import FB.Lemmas.ImplRun
namespace FB
open FS Spec

theorem registered_simple (q : Query) (ret : Json) (exc : Option OSErr) (ans : UAns) :
    registered (.simple q ret exc ans) = [] := by rw [registered]

theorem registered_buildFile (p : Path) (c : Cmp) (f : String) (a k : Json) (subs : List Op) (r cr : Json)
    (raised sf : Bool) (ct : String) :
    registered (.buildFile p c f a k subs r cr raised sf ct) =
      registeredL subs ++ (if sf then [] else [.buildFile p c f a k subs r cr raised sf ct]) := by
  rw [registered]

theorem registered_subbuild (f : String) (a k : Json) (subs : List Op) (r : Json) (raised sf : Bool) :
    registered (.subbuild f a k subs r raised sf) =
      registeredL subs ++ (if sf then [] else [.subbuild f a k subs r raised sf]) := by
  rw [registered]

theorem registeredL_nil : registeredL [] = [] := by rw [registeredL]

theorem registeredL_cons (o : Op) (os : List Op) : registeredL (o :: os) = registered o ++ registeredL os := by
  rw [registeredL]

theorem mem_registered_buildFile {p : Path} {c : Cmp} {f : String} {a k : Json} {subs : List Op} {r cr : Json}
    {raised : Bool} {ct : String} {x : Op} (h : x ∈ registered (.buildFile p c f a k subs r cr raised false ct)) :
    x ∈ registeredL subs ∨ x = .buildFile p c f a k subs r cr raised false ct := by
  rw [registered_buildFile, List.mem_append] at h
  exact h.imp id List.mem_singleton.mp

theorem mem_registered_subbuild {f : String} {a k : Json} {subs : List Op} {r : Json} {raised : Bool} {x : Op}
    (h : x ∈ registered (.subbuild f a k subs r raised false)) :
    x ∈ registeredL subs ∨ x = .subbuild f a k subs r raised false := by
  rw [registered_subbuild, List.mem_append] at h
  exact h.imp id List.mem_singleton.mp

/-- dropping the top-level records that are not registered loses no registration, provided these have no
    registered sub-records (as the records of calls refused in their set-up: they have none at all) -/
theorem registeredL_filter_complex (ops : List Op)
    (h : ∀ o ∈ ops, Impl.isComplexRegistered o = false → registered o = []) :
    registeredL (ops.filter Impl.isComplexRegistered) = registeredL ops := by
  induction ops with
  | nil => rfl
  | cons o os ih =>
    have ih := ih fun x hx => h x (List.mem_cons_of_mem _ hx)
    cases ho : Impl.isComplexRegistered o
    · rw [List.filter_cons_of_neg (by rw [ho]; exact Bool.false_ne_true), registeredL_cons,
        h o List.mem_cons_self ho, ih, List.nil_append]
    · rw [List.filter_cons_of_pos ho, registeredL_cons, registeredL_cons, ih]

theorem mem_registeredL_cons (o : Op) (os : List Op) (x : Op) :
    x ∈ registeredL (o :: os) ↔ x ∈ registered o ∨ x ∈ registeredL os := by
  rw [registeredL_cons, List.mem_append]

theorem mem_of_find?_reverse {α : Type} (l : List α) (p : α → Bool) (x : α)
    (h : l.reverse.find? p = some x) : x ∈ l ∧ p x = true := by
  have := List.find?_some h
  have hm := List.mem_of_find?_eq_some h
  exact ⟨List.mem_reverse.mp hm, this⟩

/-- the recorded value / exception of a simple operation and what the user code saw fit together -/
def RecOK (ds : Nat) (q : Query) (ret : Json) (exc : Option OSErr) (ans : UAns) : Prop :=
  match exc with
  | some e => ret = .null ∧ ans = .error e
  | none =>
    match q with
    | .read _ cmp => ∃ c m, ret = View.cmpResult cmp c m ∧ ans = .ok (.str c)
    | _ => (∃ fs0, View.recVal ds fs0 q = .ok ret) ∧ ans = .ok ret

/-- `Follows ds prog t ops r w`: `ops` is a list of records the function `prog` (called for target `t`)
    can produce — the continuations were taken along the recorded answers — ending with outcome `r`,
    having last written `w` into its target. -/
inductive Follows (ds : Nat) : Prog → Option Path → List Op → CallRes → Option String → Prop
  | retOk (v t j) : sanitize v = some j → Follows ds (.ret v) t [] (.ok j) none
  | retBad (v t) : sanitize v = none → Follows ds (.ret v) t [] (.error .typeErr) none
  | raise (e t) : Follows ds (.raise e) t [] (.error e) none
  | query (q k t ops r w ret exc ans) : RecOK ds q ret exc ans → Follows ds (k ans) t ops r w →
      Follows ds (.query q k) t (.simple q ret exc ans :: ops) r w
  | writeSome (b mt k p ops r w) : Follows ds k (some p) ops r w →
      Follows ds (.write b mt k) (some p) ops r (some (w.getD b))
  | writeNone (b mt k ops r w) : Follows ds k none ops r w → Follows ds (.write b mt k) none ops r w
  | bfSetupFail (path cmp fname args kwargs body k t ops r w e) :
      Follows ds (k (.error e)) t ops r w →
      Follows ds (.buildFile path cmp fname args kwargs body k) t
        (.buildFile path cmp fname args kwargs [] .null .null true true "" :: ops) r w
  | bfOk (path cmp fname args kwargs body k t subs j c m0 ops r w) :
      Follows ds body (some path) subs (.ok j) (some c) →
      Follows ds (k (.ok j)) t ops r w →
      Follows ds (.buildFile path cmp fname args kwargs body k) t
        (.buildFile path cmp fname args kwargs subs j (View.cmpResult cmp c m0) false false c :: ops) r w
  | bfRaise (path cmp fname args kwargs body k t subs e kept wb ops r w) :
      Follows ds body (some path) subs (.error e) wb →
      Follows ds (k (.error e)) t ops r w →
      Follows ds (.buildFile path cmp fname args kwargs body k) t
        (.buildFile path cmp fname args kwargs subs kept .null true false "" :: ops) r w
  | bfNotCreated (path cmp fname args kwargs body k t subs j ops r w) :
      Follows ds body (some path) subs (.ok j) none →
      Follows ds (k (.error (notCreatedExc path))) t ops r w →
      Follows ds (.buildFile path cmp fname args kwargs body k) t
        (.buildFile path cmp fname args kwargs subs j .null true false "" :: ops) r w
  | sbSetupFail (fname args kwargs body k t ops r w e) :
      Follows ds (k (.error e)) t ops r w →
      Follows ds (.subbuild fname args kwargs body k) t
        (.subbuild fname args kwargs [] .null true true :: ops) r w
  | sbOk (fname args kwargs body k t subs j wb ops r w) :
      Follows ds body none subs (.ok j) wb →
      Follows ds (k (.ok j)) t ops r w →
      Follows ds (.subbuild fname args kwargs body k) t
        (.subbuild fname args kwargs subs j false false :: ops) r w
  | sbRaise (fname args kwargs body k t subs e wb ops r w) :
      Follows ds body none subs (.error e) wb →
      Follows ds (k (.error e)) t ops r w →
      Follows ds (.subbuild fname args kwargs body k) t
        (.subbuild fname args kwargs subs .null true false :: ops) r w

/-- Induction over `Follows` by the shape of the records, for statements about a program and its records only:
    nothing recorded; a query; a write (no record); a call refused in its set-up; a `build_file` call that ran
    (`raised = false`: its function returned `ret` having written `content`); the same two for `subbuild`. -/
theorem Follows.by_records {ds : Nat} {P : Prog → List Op → Prop}
    (done : ∀ prog, P prog [])
    (query : ∀ q k ans ret exc ops, RecOK ds q ret exc ans → P (k ans) ops →
      P (.query q k) (.simple q ret exc ans :: ops))
    (write : ∀ b mt k ops, P k ops → P (.write b mt k) ops)
    (bfRefused : ∀ path cmp fname args kwargs body k r' ops, P (k r') ops →
      P (.buildFile path cmp fname args kwargs body k)
        (.buildFile path cmp fname args kwargs [] .null .null true true "" :: ops))
    (bf : ∀ path cmp fname args kwargs body k subs ret cmpRes raised content r' ops,
      (raised = false → Follows ds body (some path) subs (.ok ret) (some content) ∧
        ∃ m0, cmpRes = View.cmpResult cmp content m0) →
      P body subs → P (k r') ops →
      P (.buildFile path cmp fname args kwargs body k)
        (.buildFile path cmp fname args kwargs subs ret cmpRes raised false content :: ops))
    (sbRefused : ∀ fname args kwargs body k r' ops, P (k r') ops →
      P (.subbuild fname args kwargs body k) (.subbuild fname args kwargs [] .null true true :: ops))
    (sb : ∀ fname args kwargs body k subs ret raised r' ops,
      (raised = false → ∃ wb, Follows ds body none subs (.ok ret) wb) →
      P body subs → P (k r') ops →
      P (.subbuild fname args kwargs body k) (.subbuild fname args kwargs subs ret raised false :: ops))
    {prog : Prog} {t : Option Path} {ops : List Op} {r : CallRes} {w : Option String}
    (h : Follows ds prog t ops r w) : P prog ops := by
  induction h with
  | retOk | retBad | raise => exact done _
  | query q k _ _ _ _ ret exc ans hrec _ ih => exact query q k ans ret exc _ hrec ih
  | writeSome b mt k _ _ _ _ _ ih => exact write b mt k _ ih
  | writeNone b mt k _ _ _ _ ih => exact write b mt k _ ih
  | bfSetupFail _ _ _ _ _ _ _ _ _ _ _ e _ ih => exact bfRefused _ _ _ _ _ _ _ (.error e) _ ih
  | bfOk _ _ _ _ _ _ _ _ _ j _ m0 _ _ _ hb _ ihb ihk =>
    exact bf _ _ _ _ _ _ _ _ _ _ _ _ (.ok j) _ (fun _ => ⟨hb, m0, rfl⟩) ihb ihk
  | bfRaise _ _ _ _ _ _ _ _ _ e _ _ _ _ _ _ _ ihb ihk =>
    exact bf _ _ _ _ _ _ _ _ _ _ _ _ (.error e) _ (fun h => nomatch h) ihb ihk
  | bfNotCreated path _ _ _ _ _ _ _ _ _ _ _ _ _ _ ihb ihk =>
    exact bf _ _ _ _ _ _ _ _ _ _ _ _ (.error (notCreatedExc path)) _ (fun h => nomatch h) ihb ihk
  | sbSetupFail _ _ _ _ _ _ _ _ _ e _ ih => exact sbRefused _ _ _ _ _ (.error e) _ ih
  | sbOk _ _ _ _ _ _ _ j wb _ _ _ hb _ ihb ihk =>
    exact sb _ _ _ _ _ _ _ _ (.ok j) _ (fun _ => ⟨wb, hb⟩) ihb ihk
  | sbRaise _ _ _ _ _ _ _ e _ _ _ _ _ _ ihb ihk =>
    exact sb _ _ _ _ _ _ _ _ (.error e) _ (fun h => nomatch h) ihb ihk

/-- the regular files that exist physically in state `s`: in the virtual tree or as leftovers -/
def KSt.InU (s : KSt) (p : Path) (b : String) (m : Nat) : Prop :=
  s.sp.fs.get p = some (.file b m) ∨ s.shelf.get p = some (.file b m)

mutual
/-- The obligation the comparison modes put on the world: a file that compares equal to what was
    recorded has the recorded content.  For HASH this always holds (`faithful_of_hash`); for METADATA it
    is the user's assumption that size and modification time identify the content. -/
def FaithfulOp (U : Path → String → Nat → Prop) : Op → Prop
  | .simple q ret exc ans =>
    match q, exc, ans with
    | .read p cmp, none, .ok (.str c) =>
      ∀ b m, U p b m → isEqual (View.cmpResult cmp b m) ret = true → b = c
    | _, _, _ => True
  | .buildFile p cmp _ _ _ subs _ cmpRes raised _ content =>
    (raised = false → ∀ b m, U p b m → isEqual cmpRes (View.cmpResult cmp b m) = true → b = content) ∧
    FaithfulOps U subs
  | .subbuild _ _ _ subs _ _ _ => FaithfulOps U subs
def FaithfulOps (U : Path → String → Nat → Prop) : List Op → Prop
  | [] => True
  | o :: os => FaithfulOp U o ∧ FaithfulOps U os
end

mutual
theorem FaithfulOp.mono {U U' : Path → String → Nat → Prop} (h : ∀ p b m, U' p b m → U p b m) :
    (o : Op) → FaithfulOp U o → FaithfulOp U' o
  | .simple q ret exc ans, hf => by
    unfold FaithfulOp at hf ⊢
    split at hf
    · intro b m hu; exact hf b m (h _ _ _ hu)
    · trivial
  | .buildFile p cmp _ _ _ subs _ cmpRes raised _ content, hf => by
    unfold FaithfulOp at hf ⊢
    exact ⟨fun hr b m hu => hf.1 hr b m (h _ _ _ hu), FaithfulOps.mono h subs hf.2⟩
  | .subbuild _ _ _ subs _ _ _, hf => by
    unfold FaithfulOp at hf ⊢
    exact FaithfulOps.mono h subs hf
theorem FaithfulOps.mono {U U' : Path → String → Nat → Prop} (h : ∀ p b m, U' p b m → U p b m) :
    (os : List Op) → FaithfulOps U os → FaithfulOps U' os
  | [], _ => by unfold FaithfulOps; trivial
  | o :: os, hf => by
    unfold FaithfulOps at hf ⊢
    exact ⟨FaithfulOp.mono h o hf.1, FaithfulOps.mono h os hf.2⟩
end

theorem answer_of_recVal_error (ds : Nat) (f : FS) (q : Query) (e : OSErr)
    (h : View.recVal ds f q = .error e) : View.answer ds f q = .error e := by
  cases q with
  | read p c =>
    simp only [View.recVal, View.answer] at h ⊢
    cases hg : f.get p with
    | none => simp [hg] at h ⊢; exact h
    | some x => cases x with
      | dir => simp [hg] at h ⊢; exact h
      | file b m => simp [hg] at h
  | _ => simpa [View.answer] using h

theorem answer_of_recVal_ok (ds : Nat) (f : FS) (q : Query) (v : Json)
    (hq : ∀ p c, q ≠ .read p c) (h : View.recVal ds f q = .ok v) : View.answer ds f q = .ok v := by
  cases q with
  | read p c => exact absurd rfl (hq p c)
  | _ => simpa [View.answer] using h

theorem replayOp_simple_some (q : Query) (ret : Json) (exc : Option OSErr) (ans : UAns) (s s' : KSt)
    (h : Impl.replayOp (.simple q ret exc ans) s = some s') :
    s' = s ∧
    ((∃ v, View.recVal s.sp.dirSize (visible s.sp) q = .ok v ∧ exc = none ∧ isEqual v ret = true) ∨
     (∃ e, View.recVal s.sp.dirSize (visible s.sp) q = .error e ∧ exc = some e ∧ isEqual .null ret = true)) := by
  unfold Impl.replayOp at h
  cases hrv : View.recVal s.sp.dirSize (visible s.sp) q <;> cases exc <;> rw [hrv] at h <;> dsimp only at h
  · cases h
  · obtain ⟨⟨he, hc⟩, hs⟩ := Option.ite_none_right_eq_some.mp h
    exact ⟨(Option.some.inj hs).symm, .inr ⟨_, rfl, by rw [he], hc⟩⟩
  · obtain ⟨hc, hs⟩ := Option.ite_none_right_eq_some.mp h
    exact ⟨(Option.some.inj hs).symm, .inl ⟨_, rfl, rfl, hc⟩⟩
  · cases h

/-- C01/C05 for one recorded query: if replay accepts it, the query answers now what it answered then -/
theorem replay_simple_sound (s s' : KSt) (q : Query) (ret : Json) (exc : Option OSErr) (ans : UAns)
    (hrec : RecOK s.sp.dirSize q ret exc ans) (hf : FaithfulOp s.InU (.simple q ret exc ans))
    (h : Impl.replayOp (.simple q ret exc ans) s = some s') :
    s' = s ∧ View.answer s.sp.dirSize (visible s.sp) q = ans := by
  obtain ⟨hs, ⟨v, hrv, rfl, hc⟩ | ⟨e, hrv, rfl, _⟩⟩ := replayOp_simple_some _ _ _ _ _ _ h
  · refine ⟨hs, ?_⟩
    cases q with
    | read p cmp =>
      obtain ⟨c, m, hret, hans⟩ := hrec
      simp only [View.recVal] at hrv
      cases hg : (visible s.sp).get p with
      | none => simp [hg] at hrv
      | some x =>
        cases x with
        | dir => simp [hg] at hrv
        | file b m' =>
          simp [hg] at hrv
          subst hrv hans
          have := hf b m' (Or.inl (visible_get_some _ _ _ hg)) hc
          simp [View.answer, hg, this]
    | _ =>
      -- the other queries answer with the value that is recorded
      obtain ⟨⟨fs0, h0⟩, hans⟩ := hrec
      rw [hans, ← recVal_isEqual_eq _ _ _ _ _ _ (by intro p c hh; cases hh) hrv h0 hc]
      exact answer_of_recVal_ok _ _ _ _ (by intro p c hh; cases hh) hrv
  · exact ⟨hs, by rw [answer_of_recVal_error _ _ _ _ hrv, hrec.2]⟩

end FB

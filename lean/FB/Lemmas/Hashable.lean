/-
  `heq` is an equivalence.  Assoc lists of hashable forms with distinct keys: the flattened sorted tuple `to_hashable` builds
  for a dict is equal (Python `==`) to another one iff the dicts have the same keys with equal values.
-/
import Mathlib.Data.String.Basic
import Mathlib.Data.List.Perm.Subperm
import FB.Lemmas.Json
namespace FB

abbrev HA := List (String × H)

def keysOf {α} (l : List (String × α)) : List String := l.map (·.1)

/-- `key in B and f(B[key])` -/
def lookupH (f : H → Bool) (k : String) : HA → Bool
  | [] => false
  | (k', h') :: b => if k = k' then f h' else lookupH f k b

def objEqH (A B : HA) : Bool := A.length == B.length && A.all (fun x => lookupH (heq x.2) x.1 B)

mutual
theorem heq_refl : (a : H) → heq a a = true
  | .null => by simp [heq]
  | .num n => by simp [heq, Num.eq]
  | .str s => by simp [heq]
  | .tup xs => by simpa [heq] using heqL_refl xs
theorem heqL_refl : (xs : List H) → heqL xs xs = true
  | [] => by simp [heqL]
  | x :: xs => by simp [heqL, heq_refl x, heqL_refl xs]
end

mutual
theorem heq_symm : (a b : H) → heq a b = heq b a
  | .null, b => by cases b <;> simp [heq]
  | .num n, b => by
    cases b <;> simp [heq, Num.eq]
    exact eq_comm
  | .str s, b => by
    cases b <;> simp [heq]
    exact eq_comm
  | .tup xs, b => by
    cases b with
    | tup ys => simpa [heq] using heqL_symm xs ys
    | _ => simp [heq]
theorem heqL_symm : (xs ys : List H) → heqL xs ys = heqL ys xs
  | [], [] => rfl
  | [], _ :: _ => by simp [heqL]
  | _ :: _, [] => by simp [heqL]
  | x :: xs, y :: ys => by simp [heqL, heq_symm x y, heqL_symm xs ys]
end

mutual
theorem heq_trans : (a b c : H) → heq a b = true → heq b c = true → heq a c = true
  | .null, b, c, h1, h2 => by cases b <;> first | exact h2 | cases h1
  | .num n, b, c, h1, h2 => by
    cases b <;> cases c <;> simp_all [heq, Num.eq]
  | .str s, b, c, h1, h2 => by
    cases b with
    | str s' => rw [show s = s' from by simpa [heq] using h1]; exact h2
    | _ => cases h1
  | .tup xs, b, c, h1, h2 => by
    cases b with
    | tup ys => cases c with
      | tup zs => simp only [heq] at h1 h2 ⊢; exact heqL_trans xs ys zs h1 h2
      | _ => cases h2
    | _ => cases h1
theorem heqL_trans : (xs ys zs : List H) → heqL xs ys = true → heqL ys zs = true → heqL xs zs = true
  | [], ys, zs, h1, h2 => by cases ys <;> first | exact h2 | cases h1
  | x :: xs, ys, zs, h1, h2 => by
    cases ys with
    | nil => cases h1
    | cons y ys => cases zs with
      | nil => cases h2
      | cons z zs =>
        simp only [heqL, Bool.and_eq_true] at h1 h2 ⊢
        exact ⟨heq_trans x y z h1.1 h2.1, heqL_trans xs ys zs h1.2 h2.2⟩
end

theorem insertKey_perm {α} (k : String) (v : α) (l : List (String × α)) :
    (insertKey k v l).Perm ((k, v) :: l) := by
  induction l with
  | nil => simp [insertKey]
  | cons x r ih =>
    obtain ⟨k', v'⟩ := x
    simp only [insertKey]
    split
    · exact List.Perm.refl _
    · exact (List.Perm.cons _ ih).trans (List.Perm.swap _ _ _)

theorem sortKeys_perm {α} (l : List (String × α)) : (sortKeys l).Perm l := by
  induction l with
  | nil => simp [sortKeys]
  | cons x r ih =>
    obtain ⟨k, v⟩ := x
    exact (insertKey_perm k v _).trans (List.Perm.cons _ ih)

def SortedK {α} (l : List (String × α)) : Prop := (keysOf l).Pairwise (· < ·)

theorem sortedK_insertKey {α} (k : String) (v : α) (l : List (String × α)) (hs : SortedK l)
    (hk : k ∉ keysOf l) : SortedK (insertKey k v l) := by
  induction l with
  | nil => simp [insertKey, SortedK, keysOf]
  | cons x r ih =>
    obtain ⟨k', v'⟩ := x
    simp only [SortedK, keysOf, List.map_cons, List.pairwise_cons] at hs
    simp only [keysOf, List.map_cons, List.mem_cons, not_or] at hk
    simp only [insertKey]
    split
    · rename_i hlt
      simp only [SortedK, keysOf, List.map_cons, List.pairwise_cons]
      refine ⟨?_, hs⟩
      intro a ha
      rcases List.mem_cons.mp ha with rfl | ha
      · exact hlt
      · exact lt_trans hlt (hs.1 a ha)
    · rename_i hnlt
      have hlt : k' < k := lt_of_le_of_ne (not_lt.mp hnlt) (Ne.symm hk.1)
      have ih' := ih hs.2 hk.2
      simp only [SortedK, keysOf, List.map_cons, List.pairwise_cons]
      refine ⟨?_, ih'⟩
      intro a ha
      have : a ∈ k :: keysOf r := ((insertKey_perm k v r).map (·.1)).subset ha
      rcases List.mem_cons.mp this with rfl | ha'
      · exact hlt
      · exact hs.1 a ha'

theorem sortedK_sortKeys {α} (l : List (String × α)) (hd : (keysOf l).Nodup) : SortedK (sortKeys l) := by
  induction l with
  | nil => simp [sortKeys, SortedK, keysOf]
  | cons x r ih =>
    obtain ⟨k, v⟩ := x
    simp only [keysOf, List.map_cons, List.nodup_cons] at hd
    simp only [sortKeys]
    apply sortedK_insertKey k v _ (ih hd.2)
    intro hm
    have : (keysOf (sortKeys r)).Perm (keysOf r) := (sortKeys_perm r).map _
    exact hd.1 (this.subset hm)

theorem lookupH_of_mem (f : H → Bool) (B : HA) (hd : (keysOf B).Nodup) (k : String) (h : H)
    (hm : (k, h) ∈ B) : lookupH f k B = f h := by
  induction B with
  | nil => cases hm
  | cons x r ih =>
    obtain ⟨k', h'⟩ := x
    simp only [keysOf, List.map_cons, List.nodup_cons] at hd
    simp only [lookupH]
    rcases List.mem_cons.mp hm with e | hm'
    · injection e with e1 e2; subst e1 e2; simp
    · have hne : k ≠ k' := by
        intro e; subst e
        exact hd.1 (List.mem_map.mpr ⟨(k, h), hm', rfl⟩)
      simp only [hne, if_false]
      exact ih hd.2 hm'

theorem lookupH_false_of_not_mem (f : H → Bool) (B : HA) (k : String) (hk : k ∉ keysOf B) :
    lookupH f k B = false := by
  induction B with
  | nil => rfl
  | cons x r ih =>
    obtain ⟨k', h'⟩ := x
    simp only [keysOf, List.map_cons, List.mem_cons, not_or] at hk
    simp only [lookupH, hk.1, if_false]
    exact ih hk.2

theorem lookupH_true_iff (f : H → Bool) (B : HA) (hd : (keysOf B).Nodup) (k : String) :
    lookupH f k B = true ↔ ∃ h, (k, h) ∈ B ∧ f h = true := by
  constructor
  · intro hl
    by_cases hk : k ∈ keysOf B
    · obtain ⟨⟨k', h⟩, hm, hk'⟩ := List.mem_map.mp hk
      simp only at hk'; subst hk'
      rw [lookupH_of_mem f B hd _ h hm] at hl
      exact ⟨h, hm, hl⟩
    · rw [lookupH_false_of_not_mem f B k hk] at hl; cases hl
  · rintro ⟨h, hm, hf⟩
    rw [lookupH_of_mem f B hd k h hm]; exact hf

theorem objEqH_perm (A A' B B' : HA) (hA : A.Perm A') (hB : B.Perm B') (hdB : (keysOf B).Nodup) :
    objEqH A B = objEqH A' B' := by
  have hdB' : (keysOf B').Nodup := (hB.map _).nodup_iff.mp hdB
  have hlk : ∀ x : String × H, lookupH (heq x.2) x.1 B = lookupH (heq x.2) x.1 B' := by
    intro x
    apply Bool.eq_iff_iff.mpr
    rw [lookupH_true_iff _ _ hdB, lookupH_true_iff _ _ hdB']
    constructor
    · rintro ⟨h, hm, hf⟩; exact ⟨h, hB.subset hm, hf⟩
    · rintro ⟨h, hm, hf⟩; exact ⟨h, hB.symm.subset hm, hf⟩
  unfold objEqH
  rw [hA.length_eq, hB.length_eq]
  congr 1
  have : (fun x : String × H => lookupH (heq x.2) x.1 B) = (fun x => lookupH (heq x.2) x.1 B') := funext hlk
  rw [this]
  apply Bool.eq_iff_iff.mpr
  simp only [List.all_eq_true]
  constructor
  · intro h x hx; exact h x (hA.symm.subset hx)
  · intro h x hx; exact h x (hA.subset hx)

theorem objEqH_keys (A B : HA) (hdA : (keysOf A).Nodup)
    (h : objEqH A B = true) : ∀ k, k ∈ keysOf A ↔ k ∈ keysOf B := by
  unfold objEqH at h
  simp only [Bool.and_eq_true, beq_iff_eq, List.all_eq_true] at h
  obtain ⟨hlen, hall⟩ := h
  have hsub : keysOf A ⊆ keysOf B := by
    intro k hk
    obtain ⟨⟨k', hh⟩, hm, e⟩ := List.mem_map.mp hk
    simp only at e; subst e
    have := hall _ hm
    by_contra hn
    rw [lookupH_false_of_not_mem _ _ _ hn] at this; cases this
  have hperm : (keysOf A).Perm (keysOf B) := by
    have hsp : (keysOf A).Subperm (keysOf B) := List.subperm_of_subset hdA hsub
    exact hsp.perm_of_length_le (by simp [keysOf, hlen])
  intro k
  exact ⟨fun hk => hperm.subset hk, fun hk => hperm.symm.subset hk⟩

/-- the heart: on key-sorted lists with distinct keys, element-wise equality of the flattened tuples
    is `objEqH` -/
theorem heqL_flatten_sorted : (A B : HA) → SortedK A → SortedK B →
    heqL (flattenKV A) (flattenKV B) = objEqH A B
  | [], [], _, _ => by simp [flattenKV, heqL, objEqH]
  | [], (k, h) :: B, _, _ => by simp [flattenKV, heqL, objEqH]
  | (k, h) :: A, [], _, _ => by simp [flattenKV, heqL, objEqH]
  | (k, h) :: A, (k', h') :: B, hsA, hsB => by
    have hsA' : SortedK A := by
      simp only [SortedK, keysOf, List.map_cons, List.pairwise_cons] at hsA; exact hsA.2
    have hsB' : SortedK B := by
      simp only [SortedK, keysOf, List.map_cons, List.pairwise_cons] at hsB; exact hsB.2
    have hkA : ∀ a ∈ keysOf A, k < a := by
      simp only [SortedK, keysOf, List.map_cons, List.pairwise_cons] at hsA; exact hsA.1
    have hkB : ∀ a ∈ keysOf B, k' < a := by
      simp only [SortedK, keysOf, List.map_cons, List.pairwise_cons] at hsB; exact hsB.1
    have ndA : (keysOf ((k, h) :: A)).Nodup := hsA.imp (fun hab => ne_of_lt hab)
    have ndB : (keysOf ((k', h') :: B)).Nodup := hsB.imp (fun hab => ne_of_lt hab)
    have ih := heqL_flatten_sorted A B hsA' hsB'
    simp only [flattenKV, heqL, heq]
    by_cases hkk : k = k'
    · subst hkk
      simp only [beq_self_eq_true, Bool.true_and]
      rw [ih]
      unfold objEqH
      simp only [List.length_cons, List.all_cons]
      have hhead : lookupH (heq h) k ((k, h') :: B) = heq h h' := by simp [lookupH]
      have hrest : A.all (fun x => lookupH (heq x.2) x.1 ((k, h') :: B)) = A.all (fun x => lookupH (heq x.2) x.1 B) := by
        apply Bool.eq_iff_iff.mpr
        simp only [List.all_eq_true]
        have hne : ∀ x ∈ A, x.1 ≠ k := by
          intro x hx e
          have := hkA x.1 (List.mem_map.mpr ⟨x, hx, rfl⟩)
          rw [e] at this; exact lt_irrefl _ this
        constructor
        · intro hh x hx
          have := hh x hx
          simpa [lookupH, hne x hx] using this
        · intro hh x hx
          have := hh x hx
          simpa [lookupH, hne x hx] using this
      rw [hhead, hrest]
      have hl : (A.length + 1 == B.length + 1) = (A.length == B.length) := by simp
      rw [hl]
      cases heq h h' <;> cases (A.length == B.length) <;> simp
    · -- different smallest keys: the key sets differ
      have hfalse : objEqH ((k, h) :: A) ((k', h') :: B) = false := by
        cases ho : objEqH ((k, h) :: A) ((k', h') :: B) with
        | false => rfl
        | true =>
          exfalso
          have hkeys := objEqH_keys _ _ ndA ho
          have h1 : k ∈ keysOf ((k', h') :: B) := (hkeys k).mp (by simp [keysOf])
          have h2 : k' ∈ keysOf ((k, h) :: A) := (hkeys k').mpr (by simp [keysOf])
          simp only [keysOf, List.map_cons, List.mem_cons] at h1 h2
          rcases h1 with e | h1
          · exact hkk e
          · rcases h2 with e | h2
            · exact hkk e.symm
            · exact lt_asymm (hkB k h1) (hkA k' h2)
      rw [hfalse]
      simp [hkk]

/-- `to_hashable` of two dicts (as assoc lists of hashable forms with distinct keys) compare equal iff
    the dicts have the same keys with `heq`-equal values -/
theorem heqL_flatten_sortKeys (A B : HA) (hdA : (keysOf A).Nodup) (hdB : (keysOf B).Nodup) :
    heqL (flattenKV (sortKeys A)) (flattenKV (sortKeys B)) = objEqH A B := by
  rw [heqL_flatten_sorted _ _ (sortedK_sortKeys A hdA) (sortedK_sortKeys B hdB)]
  exact objEqH_perm _ _ _ _ (sortKeys_perm A) (sortKeys_perm B)
    (((sortKeys_perm B).map _).nodup_iff.mpr hdB)

end FB

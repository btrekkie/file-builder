/-
  `isFile` / `isDir` in terms of `get`; `get` after `erase`, after erasing a list of paths, after erasing those of
  them that are files, after `filter`; what a successful `mkdir` / `rmdir` says.
-/
import FB.Lemmas.FS
namespace FB
namespace FS

theorem isDir_iff {fs : FS} {p : Path} : fs.isDir p = true ↔ fs.get p = some .dir := by
  unfold isDir
  cases fs.get p with
  | none => simp
  | some e => cases e <;> simp

theorem isFile_iff {fs : FS} {p : Path} : fs.isFile p = true ↔ ∃ c m, fs.get p = some (.file c m) := by
  unfold isFile
  cases fs.get p with
  | none => simp
  | some e => cases e <;> simp

theorem isFile_of_get {fs : FS} {p : Path} {c : String} {m : Nat} (h : fs.get p = some (.file c m)) :
    fs.isFile p = true := isFile_iff.mpr ⟨c, m, h⟩

theorem get_ne_none_of_isDir {fs : FS} {p : Path} (h : fs.isDir p = true) : fs.get p ≠ none := by
  rw [isDir_iff.mp h]; exact Option.some_ne_none _

theorem get_ne_none_of_isFile {fs : FS} {p : Path} (h : fs.isFile p = true) : fs.get p ≠ none := by
  obtain ⟨c, m, hg⟩ := isFile_iff.mp h
  rw [hg]; exact Option.some_ne_none _

theorem isDir_false_iff {fs : FS} {p : Path} : fs.isDir p = false ↔ fs.get p ≠ some .dir := by
  rw [← Bool.not_eq_true, isDir_iff]

theorem isFile_false_iff {fs : FS} {p : Path} : fs.isFile p = false ↔ ∀ c m, fs.get p ≠ some (.file c m) := by
  rw [← Bool.not_eq_true, isFile_iff]
  exact ⟨fun h c m e => h ⟨c, m, e⟩, fun h ⟨c, m, e⟩ => h c m e⟩

theorem not_isDir_of_isFile {fs : FS} {p : Path} (h : fs.isFile p = true) : fs.isDir p = false := by
  obtain ⟨c, m, hg⟩ := isFile_iff.mp h
  rw [isDir_false_iff, hg]
  exact fun e => nomatch e

theorem isFile_congr {a b : FS} {p : Path} (h : a.get p = b.get p) : a.isFile p = b.isFile p := by
  unfold isFile; rw [h]

theorem isDir_congr {a b : FS} {p : Path} (h : a.get p = b.get p) : a.isDir p = b.isDir p := by
  unfold isDir; rw [h]

theorem get_erase (fs : FS) (p q : Path) : (fs.erase p).get q = if q = p ∧ q ≠ [] then none else fs.get q := by
  by_cases hq : q = p
  · subst hq
    by_cases hr : q = []
    · subst hr; rw [get_nil, if_neg (fun h => h.2 rfl), get_nil]
    · rw [get_erase_self _ _ hr, if_pos ⟨rfl, hr⟩]
  · rw [get_erase_ne _ _ _ hq, if_neg (fun h => hq h.1)]

theorem get_foldl_erase (ps : List Path) (fs : FS) (q : Path) :
    (ps.foldl (fun fs p => fs.erase p) fs).get q = if q ∈ ps ∧ q ≠ [] then none else fs.get q := by
  induction ps generalizing fs with
  | nil => exact (if_neg (fun h => nomatch h.1)).symm
  | cons p r ih =>
    rw [List.foldl_cons, ih, get_erase]
    by_cases hr : q = []
    · rw [if_neg (fun h => h.2 hr), if_neg (fun h => h.2 hr), if_neg (fun h => h.2 hr)]
    by_cases hm : q ∈ r
    · rw [if_pos ⟨hm, hr⟩, if_pos ⟨List.mem_cons_of_mem _ hm, hr⟩]
    · rw [if_neg (fun h => hm h.1)]
      by_cases hq : q = p
      · rw [if_pos ⟨hq, hr⟩, if_pos ⟨hq ▸ List.mem_cons_self, hr⟩]
      · rw [if_neg (fun h => hq h.1), if_neg (fun h => (List.mem_cons.mp h.1).elim hq hm)]

theorem get_eraseFiles (ps : List Path) (fs : FS) (q : Path) :
    (ps.foldl (fun fs p => if fs.isFile p then fs.erase p else fs) fs).get q =
      if q ∈ ps ∧ fs.isFile q = true then none else fs.get q := by
  induction ps generalizing fs with
  | nil => exact (if_neg (fun h => nomatch h.1)).symm
  | cons p r ih =>
    rw [List.foldl_cons, ih]
    by_cases hq : q = p
    · subst hq
      by_cases hf : fs.isFile q = true
      · have hne : q ≠ [] := fun e => by rw [e, isFile_root] at hf; cases hf
        rw [if_pos hf, get_erase_self _ _ hne, ite_self]
        exact (if_pos ⟨List.mem_cons_self .., hf⟩).symm
      · rw [if_neg hf, if_neg (fun h => hf h.2), if_neg (fun h => hf h.2)]
    · have hget : (if fs.isFile p = true then fs.erase p else fs).get q = fs.get q := by
        split
        · exact get_erase_ne _ _ _ hq
        · rfl
      rw [isFile_congr hget, hget]
      by_cases hm : q ∈ r ∧ fs.isFile q = true
      · rw [if_pos hm, if_pos ⟨List.mem_cons_of_mem _ hm.1, hm.2⟩]
      · rw [if_neg hm, if_neg (fun h => hm ⟨(List.mem_cons.mp h.1).resolve_left hq, h.2⟩)]

theorem rmdir_eq_erase {fs fs' : FS} {p : Path} (h : fs.rmdir p = .ok fs') : fs' = fs.erase p := by
  unfold rmdir at h
  split at h
  · cases h
  · split at h
    · cases h
    · cases h
    · split at h
      · exact (Except.ok.inj h).symm
      · cases h

end FS

open FS

theorem get_filter_key (fs : FS) (f : Path → Bool) (p : Path) (hp : p ≠ []) :
    FS.get (fs.filter (fun x => f x.1)) p = if f p then fs.get p else none := by
  induction fs with
  | nil => simp [FS.get, hp]
  | cons x r ih =>
    obtain ⟨q, e⟩ := x
    simp only [List.filter]
    by_cases hq : f q = true
    · simp only [hq]
      rw [get_cons _ _ _ _ hp, get_cons _ _ _ _ hp, ih]
      by_cases hqp : q = p
      · subst hqp; simp [hq]
      · simp [hqp]
    · simp only [hq]
      rw [ih, get_cons _ _ _ _ hp]
      by_cases hqp : q = p
      · subst hqp; simp [hq]
      · simp [hqp]

theorem get_filter_key_some (fs : FS) (f : Path → Bool) (p : Path) (e : Entry)
    (h : FS.get (fs.filter (fun x => f x.1)) p = some e) : fs.get p = some e := by
  by_cases hp : p = []
  · subst hp; rw [get_nil] at h ⊢; exact h
  · rw [get_filter_key _ _ _ hp] at h
    split at h
    · exact h
    · cases h

end FB

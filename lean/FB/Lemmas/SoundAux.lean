/-
  `PendClaimed` (content is pending only for claimed targets) and how a write and `bfFinish` keep it; two facts
  about the target of a `build_file` record: it is not among the directories made for it, and a leftover that
  matches its comparison result is a regular file on the shelf.
-/
import FB.Lemmas.ReplayBasic
import FB.Lemmas.RunPending
namespace FB
open FS Spec

theorem path_not_in_made (vfs : FS) (cf : Path) (bl : List Path) (path : Path) (made : List Path)
    (hp : path ≠ []) (h : dirsToMake vfs cf bl path.dropLast = .ok made) : path ∉ made := by
  intro hm
  have := (dirsToMake_mem h hm).1.length_le
  rw [List.length_dropLast] at this
  have : path.length ≠ 0 := by simpa using hp
  omega

/-- pending content exists only for claimed targets -/
def PendClaimed (sp : SpecSt) : Prop := ∀ q, q ∉ sp.claimedFiles → pendingFind sp.pending q = none

/-- a function writes into its own target, which is claimed -/
theorem PendClaimed.write {sp : SpecSt} (h : PendClaimed sp) {p : Path} (hp : p ∈ sp.claimedFiles) (b : String)
    (m c : Nat) : PendClaimed { sp with pending := (p, b, m) :: sp.pending, clock := c } := by
  intro q hq
  show pendingFind ((p, b, m) :: sp.pending) q = none
  rw [pendingFind_cons_ne p q _ _ _ (fun e => hq (e ▸ hp))]
  exact h q hq

theorem PendClaimed.bfFinish {sp : SpecSt} (h : PendClaimed sp) (path : Path) (made : List Path) (r : CallRes) :
    PendClaimed (bfFinish sp path made r).2 := by
  intro q hq
  rw [bfFinish_claimed] at hq
  rw [bfFinish_pending, pendingFind_filter]
  split
  · rfl
  · exact h q hq

theorem isEqual_cmpResult_null (cmp : Cmp) (b : String) (m : Nat) :
    isEqual (View.cmpResult cmp b m) .null = false := by
  cases cmp <;> simp [View.cmpResult, isEqual]

theorem outputMatches_shelf (s : KSt) (path : Path) (cmp : Cmp) (c : String) (m0 : Nat)
    (h : Impl.outputMatches s path cmp (View.cmpResult cmp c m0) = true) :
    path ≠ [] ∧ ∃ b m, s.shelf.get path = some (.file b m) ∧
      isEqual (View.cmpResult cmp c m0) (View.cmpResult cmp b m) = true := by
  unfold Impl.outputMatches Impl.cmpShelf at h
  cases hg : s.shelf.get path with
  | none => simp [hg, isEqual_cmpResult_null] at h
  | some e =>
    cases e with
    | dir => simp [hg, isEqual_cmpResult_null] at h
    | file b m =>
      simp only [hg] at h
      by_cases hp : path = []
      · simp [hp, isEqual_cmpResult_null] at h
      · simp only [hp, if_false] at h
        exact ⟨hp, b, m, rfl, h⟩

end FB

/-
  The abstract tree FB.FS: `get` after `erase`, `set`, `mkdir`, `rmdir`, at the path operated on and elsewhere;
  entries and `childNames` as membership.
-/
import FB.FS
namespace FB
namespace FS

theorem get_nil (fs : FS) : fs.get [] = some .dir := by
  cases fs <;> simp [get]

theorem get_cons (q : Path) (e : Entry) (r : FS) (p : Path) (hp : p ≠ []) :
    get ((q, e) :: r) p = if q = p then some e else get r p := by
  simp [get, hp]

theorem get_erase_self (fs : FS) (p : Path) (hp : p ≠ []) : (fs.erase p).get p = none := by
  induction fs with
  | nil => simp [erase, get, hp]
  | cons x r ih =>
    obtain ⟨q, e⟩ := x
    by_cases h : q = p
    · subst h; simpa [erase, List.filter] using ih
    · simp only [erase, List.filter, ne_eq, h, not_false_eq_true, decide_true]
      rw [get_cons _ _ _ _ hp]; simp only [h, if_false]; exact ih

theorem get_erase_ne (fs : FS) (p q : Path) (h : q ≠ p) : (fs.erase p).get q = fs.get q := by
  by_cases hq : q = []
  · subst hq; simp [get_nil]
  induction fs with
  | nil => simp [erase, get]
  | cons x r ih =>
    obtain ⟨a, e⟩ := x
    by_cases ha : a = p
    · subst ha
      simp only [erase, List.filter, ne_eq, not_true_eq_false, decide_false]
      rw [get_cons _ _ _ _ hq]
      have : ¬ a = q := fun e => h e.symm
      simp only [this, if_false]; exact ih
    · simp only [erase, List.filter, ne_eq, ha, not_false_eq_true, decide_true]
      rw [get_cons _ _ _ _ hq, get_cons _ _ _ _ hq]
      split
      · rfl
      · exact ih

theorem get_set_self (fs : FS) (p : Path) (e : Entry) (hp : p ≠ []) : (fs.set p e).get p = some e := by
  simp [set, get_cons _ _ _ _ hp]

theorem get_set_ne (fs : FS) (p q : Path) (e : Entry) (h : q ≠ p) : (fs.set p e).get q = fs.get q := by
  by_cases hq : q = []
  · subst hq; simp [get_nil]
  · simp only [set]; rw [get_cons _ _ _ _ hq]
    have : ¬ p = q := fun e => h e.symm
    simp only [this, if_false]; exact get_erase_ne fs p q h

theorem mkdir_ok {fs fs' : FS} {p : Path} (h : fs.mkdir p = .ok fs') :
    p ≠ [] ∧ fs.get p.dropLast = some .dir ∧ fs.get p = none ∧ fs' = fs.set p .dir := by
  unfold mkdir at h
  split at h
  · cases h
  · rename_i hp
    split at h
    · cases h
    · cases h
    · rename_i hpar
      split at h
      · cases h
      · rename_i hg
        exact ⟨hp, hpar, hg, (Except.ok.inj h).symm⟩

theorem get_mkdir (fs fs' : FS) (p q : Path) (h : fs.mkdir p = .ok fs') :
    fs'.get q = if q = p then some .dir else fs.get q := by
  obtain ⟨hp, -, -, rfl⟩ := mkdir_ok h
  by_cases hq : q = p
  · rw [if_pos hq, hq, get_set_self _ _ _ hp]
  · rw [if_neg hq, get_set_ne _ _ _ _ hq]

theorem mkdir_absent (fs fs' : FS) (p : Path) (h : fs.mkdir p = .ok fs') : fs.get p = none :=
  (mkdir_ok h).2.2.1

theorem get_rmdir (fs fs' : FS) (p q : Path) (h : fs.rmdir p = .ok fs') :
    fs'.get q = if q = p then none else fs.get q := by
  unfold rmdir at h
  split at h
  · cases h
  · rename_i hp
    split at h <;> try cases h
    split at h <;> try cases h
    by_cases hq : q = p
    · subst hq; simp [get_erase_self _ _ hp]
    · simp [hq, get_erase_ne _ _ _ hq]

theorem rmdir_was_empty_dir (fs fs' : FS) (p : Path) (h : fs.rmdir p = .ok fs') :
    fs.get p = some .dir ∧ fs.childNames p = [] := by
  unfold rmdir at h
  split at h
  · cases h
  · split at h <;> try cases h
    rename_i hg
    split at h <;> try cases h
    rename_i hc
    exact ⟨hg, hc⟩

theorem isFile_root (fs : FS) : fs.isFile [] = false := by simp [isFile, get_nil]

theorem isFile_erase_self (fs : FS) (p : Path) : (fs.erase p).isFile p = false := by
  by_cases hp : p = []
  · subst hp; exact isFile_root _
  · simp [isFile, get_erase_self _ _ hp]

theorem isFile_eraseIfFile (fs : FS) (p : Path) :
    (if fs.isFile p = true then fs.erase p else fs).isFile p = false := by
  by_cases hf : fs.isFile p = true
  · rw [if_pos hf]; exact isFile_erase_self fs p
  · rw [if_neg hf]; simpa using hf

end FS

open FS

theorem mem_of_get (fs : FS) (p : Path) (e : Entry) (hp : p ≠ []) (h : fs.get p = some e) :
    (p, e) ∈ fs := by
  induction fs with
  | nil => simp [FS.get, hp] at h
  | cons x r ih =>
    obtain ⟨q, e'⟩ := x
    rw [get_cons _ _ _ _ hp] at h
    split at h
    · rename_i hq; subst hq; simp at h; subst h; simp
    · exact List.mem_cons_of_mem _ (ih h)

theorem get_isSome_of_mem (fs : FS) (p : Path) (e : Entry) (h : (p, e) ∈ fs) : (fs.get p).isSome := by
  by_cases hp : p = []
  · subst hp; simp [get_nil]
  induction fs with
  | nil => cases h
  | cons x r ih =>
    obtain ⟨q, e'⟩ := x
    rw [get_cons _ _ _ _ hp]
    split
    · simp
    · rename_i hq
      cases h with
      | head => exact absurd rfl hq
      | tail _ h' => exact ih h'

theorem mem_childNames (fs : FS) (d : Path) (n : String) :
    n ∈ fs.childNames d ↔ ∃ e, (d ++ [n], e) ∈ fs := by
  simp only [childNames, List.mem_filterMap]
  constructor
  · rintro ⟨⟨q, e⟩, hm, hq⟩
    simp only at hq
    split at hq
    · rename_i hc
      have hlast : q.getLast? = some n := hq
      obtain ⟨ys, hys⟩ := List.getLast?_eq_some_iff.mp hlast
      refine ⟨e, ?_⟩
      have hd : d = ys := by
        rw [← hc.2, hys]; simp [parent]
      rw [hd, ← hys]; exact hm
    · cases hq
  · rintro ⟨e, hm⟩
    refine ⟨(d ++ [n], e), hm, ?_⟩
    simp [parent]

end FB

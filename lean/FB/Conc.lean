/-
  FB.Conc — small-step models of the four protocols the library's thread-safety rests on.  The atomic
  steps are the lock-protected regions and the individual file-system calls of the real code; a
  schedule is a list of thread ids.  Executable (the driver enumerates schedules for the tie).

  P1  key claim        (`assert_doesnt_have_*` … `start_building_file` / `start_subbuild` / `use_cached_operation`)
  P2  directory arbitration (`_dirs_to_make` reads → `os.mkdir` → `BuildDirs.started_building_file`)
  P3  finish fence     (`_assert_not_finished` at entry, the effect, the locked append; the owner's close)
  P4  lock order       (no steps: a snapshot of who holds and who waits; locks taken along a strict order cannot deadlock)
-/
namespace FB.Conc

theorem foldl_keeps {σ ι : Type} {step : σ → ι → σ} (P : σ → Prop) (sched : List ι)
    (hstep : ∀ s, ∀ i ∈ sched, P s → P (step s i)) (s : σ) (h : P s) : P (sched.foldl step s) := by
  induction sched generalizing s with
  | nil => exact h
  | cons i r ih =>
    exact ih (fun s j hj => hstep s j (List.mem_cons_of_mem _ hj)) _ (hstep s i (List.mem_cons_self ..) h)

namespace P1

inductive PC where
  | start      -- has not looked yet
  | checked    -- passed the first (unlocked-sequence) check, is looking up the cache
  | running    -- claimed the key, the function runs (or the cached result is being registered)
  | rejected   -- got RuntimeError
  | done       -- finished, the record is stored
deriving DecidableEq, Repr, Inhabited

structure St where
  owner : Option Nat := none        -- who holds the key in the new cache
  pc : Nat → PC := fun _ => .start
  executions : Nat := 0             -- how often the user function was started

/-- one atomic step of thread `i` -/
def step (s : St) (i : Nat) : St :=
  match s.pc i with
  | .start =>      -- `assert_doesnt_have_*` (locked read)
    if s.owner.isSome then { s with pc := fun j => if j = i then .rejected else s.pc j }
    else { s with pc := fun j => if j = i then .checked else s.pc j }
  | .checked =>    -- `start_*` / `use_cached_operation`: locked check-and-claim
    if s.owner.isSome then { s with pc := fun j => if j = i then .rejected else s.pc j }
    else { s with owner := some i, executions := s.executions + 1,
                  pc := fun j => if j = i then .running else s.pc j }
  | .running => { s with pc := fun j => if j = i then .done else s.pc j }
  | .rejected => s
  | .done => s

def run (s : St) (sched : List Nat) : St := sched.foldl step s

/-- whoever runs or has finished holds the key -/
def Inv (s : St) : Prop :=
  (∀ i, (s.pc i = .running ∨ s.pc i = .done) → s.owner = some i) ∧
  (s.owner = none → s.executions = 0) ∧ (s.owner.isSome → s.executions = 1)

theorem inv_init : Inv {} := by
  refine ⟨?_, ?_, ?_⟩ <;> simp

theorem inv_move {s : St} (h : Inv s) (i : Nat) (c : PC) (hc : c = .running ∨ c = .done → s.owner = some i) :
    Inv { s with pc := fun j => if j = i then c else s.pc j } := by
  refine ⟨fun j hj => ?_, h.2⟩
  by_cases hji : j = i
  · subst hji; exact hc (by simpa using hj)
  · exact h.1 j (by simpa [hji] using hj)

theorem inv_step (s : St) (i : Nat) (h : Inv s) : Inv (step s i) := by
  unfold step
  cases hp : s.pc i with
  | start =>
    simp only
    by_cases ho : s.owner.isSome = true
    · rw [if_pos ho]; exact inv_move h i .rejected (fun h => absurd h (by decide))
    · rw [if_neg ho]; exact inv_move h i .checked (fun h => absurd h (by decide))
  | checked =>
    simp only
    by_cases ho : s.owner.isSome = true
    · rw [if_pos ho]; exact inv_move h i .rejected (fun h => absurd h (by decide))
    · rw [if_neg ho]
      have hn : s.owner = none := by
        cases ho' : s.owner with
        | none => rfl
        | some x => simp [ho'] at ho
      refine ⟨fun j hj => ?_, fun ho => (by cases ho), fun _ => by simp [h.2.1 hn]⟩
      by_cases hji : j = i
      · rw [hji]
      · have := h.1 j (by simpa [hji] using hj)
        rw [hn] at this; cases this
  | running => exact inv_move h i .done (fun _ => h.1 i (Or.inl hp))
  | rejected => exact h
  | done => exact h

theorem inv_run (sched : List Nat) (s : St) (h : Inv s) : Inv (run s sched) :=
  foldl_keeps Inv sched (fun s i _ => inv_step s i) s h

/-- **C08, thread clause**: under every interleaving of any number of threads issuing the same key, at
    most one of them ever runs the function (or registers the cached result); every other one that gets
    to act is rejected. -/
theorem claim_unique (sched : List Nat) (i j : Nat)
    (hi : (run {} sched).pc i = .running ∨ (run {} sched).pc i = .done)
    (hj : (run {} sched).pc j = .running ∨ (run {} sched).pc j = .done) : i = j := by
  have h := inv_run sched {} inv_init
  have a := h.1 i hi
  have b := h.1 j hj
  rw [a] at b
  injection b

theorem executed_at_most_once (sched : List Nat) : (run {} sched).executions ≤ 1 := by
  have h := inv_run sched {} inv_init
  cases ho : (run {} sched).owner with
  | none => rw [h.2.1 ho]; omega
  | some x => rw [h.2.2 (by simp [ho])]; omega

/-- the protocol *without* the locked re-check in `start_*` runs the function twice: the model is sensitive
    to the mechanism -/
def stepNoRecheck (s : St) (i : Nat) : St :=
  match s.pc i with
  | .checked => { s with owner := some i, executions := s.executions + 1,
                         pc := fun j => if j = i then .running else s.pc j }
  | _ => step s i

example : ([0, 1, 0, 1].foldl stepNoRecheck ({} : St)).executions = 2 := by decide
example : (run {} [0, 1, 0, 1]).executions = 1 ∧ (run {} [0, 1, 0, 1]).pc 1 = .rejected := by decide

end P1

namespace P2

inductive PC where
  | start | looked | made | registered
deriving DecidableEq, Repr, Inhabited

/-- two or more threads each build a file directly below the same directory `d`, which does not exist
    and is not recorded by the previous build -/
structure St where
  dirExists : Bool := false        -- `os.path.isdir(d)`
  count : Nat := 0                 -- `_build_dir_counts[d]`
  created : Bool := false          -- `d in _created_dirs_map`
  need : Nat → Bool := fun _ => false   -- thread i thinks it has to create d (`d in created_dirs`)
  pc : Nat → PC := fun _ => .start

def step (s : St) (i : Nat) : St :=
  match s.pc i with
  | .start =>     -- `_dirs_to_make`: `is_dir(d)` looks at the real directory
    { s with need := fun j => if j = i then !s.dirExists else s.need j,
             pc := fun j => if j = i then .looked else s.pc j }
  | .looked =>    -- `os.mkdir(d)` (FileExistsError is swallowed)
    { s with dirExists := if s.need i then true else s.dirExists,
             pc := fun j => if j = i then .made else s.pc j }
  | .made =>      -- `started_building_file`: locked; whoever made d registers it, whether or not it reserves it first
    { s with count := s.count + 1,
             created := s.created || s.need i,
             pc := fun j => if j = i then .registered else s.pc j }
  | .registered => s

def run (s : St) (sched : List Nat) : St := sched.foldl step s

/-- every sequential order records the directory as created -/
example : (run {} [0, 0, 0, 1, 1, 1]).created = true ∧ (run {} [1, 1, 1, 0, 0, 0]).created = true := by decide

/-- the registration as it was before the repair of D7 (`if count > 0: break` came before the look at
    `created_dirs`): the first reservation alone decided who created d -/
def stepFirstOnly (s : St) (i : Nat) : St :=
  match s.pc i with
  | .made => { s with count := s.count + 1, created := if s.count = 0 then s.need i else s.created,
                      pc := fun j => if j = i then .registered else s.pc j }
  | _ => step s i

/-- the defect D7, kept as a regression witness: with the old registration one preemption between a thread's
    `mkdir` and its registration made the other thread see the directory as pre-existing and register first;
    nobody was recorded as its creator and `clean` left it behind.  The model is sensitive to the mechanism. -/
theorem arbitration_counterexample_before_fix :
    ([0, 0, 1, 1, 1, 0].foldl stepFirstOnly ({} : St)).created = false ∧
    ([0, 0, 1, 1, 1, 0].foldl stepFirstOnly ({} : St)).dirExists = true := by decide

/-- what every interleaving keeps: the directory exists only if a thread that believes it has to make it has
    got past `mkdir`; such a thread has registered it once it is through; and it is recorded as created only
    if it exists -/
structure ArbInv (s : St) : Prop where
  maker : s.dirExists = true → ∃ i, s.need i = true ∧ (s.pc i = .made ∨ s.pc i = .registered)
  recorded : ∀ i, s.pc i = .registered → s.need i = true → s.created = true
  real : s.created = true → s.dirExists = true
  made : ∀ i, s.need i = true → (s.pc i = .made ∨ s.pc i = .registered) → s.dirExists = true
  fresh : ∀ i, s.pc i = .start → s.need i = false

theorem arbInv_init : ArbInv {} :=
  ⟨by simp, by simp, by simp, by simp, by simp⟩

theorem arbInv_move {s s' : St} (h : ArbInv s) (i : Nat) (c : PC) (n : Bool)
    (hpi : s'.pc i = c) (hpo : ∀ k, k ≠ i → s'.pc k = s.pc k)
    (hni : s'.need i = n) (hno : ∀ k, k ≠ i → s'.need k = s.need k)
    (hdir : s.dirExists = true → s'.dirExists = true) (hcr : s.created = true → s'.created = true)
    (hkeep : s.need i = true → (s.pc i = .made ∨ s.pc i = .registered) → n = true ∧ (c = .made ∨ c = .registered))
    (hnewdir : s'.dirExists = true → s.dirExists = true ∨ (n = true ∧ (c = .made ∨ c = .registered)))
    (hnewrec : s'.created = true → s.created = true ∨ s'.dirExists = true)
    (hrec : c = .registered → n = true → s'.created = true)
    (hmade : n = true → (c = .made ∨ c = .registered) → s'.dirExists = true)
    (hfresh : c = .start → n = false) : ArbInv s' := by
  refine ⟨fun hd => ?_, fun k hk hn => ?_, fun hc => ?_, fun k hn hk => ?_, fun k hk => ?_⟩
  · rcases hnewdir hd with hd0 | hi
    · obtain ⟨k, hk, hk'⟩ := h.maker hd0
      by_cases hki : k = i
      · subst hki
        have := hkeep hk hk'
        exact ⟨k, hni.trans this.1, by rw [hpi]; exact this.2⟩
      · exact ⟨k, (hno k hki).trans hk, by rw [hpo k hki]; exact hk'⟩
    · exact ⟨i, hni.trans hi.1, by rw [hpi]; exact hi.2⟩
  · by_cases hki : k = i
    · subst hki; exact hrec (hpi.symm.trans hk) (hni.symm.trans hn)
    · exact hcr (h.recorded k ((hpo k hki).symm.trans hk) ((hno k hki).symm.trans hn))
  · rcases hnewrec hc with hc0 | hd
    · exact hdir (h.real hc0)
    · exact hd
  · by_cases hki : k = i
    · subst hki; exact hmade (hni.symm.trans hn) (by rw [← hpi]; exact hk)
    · exact hdir (h.made k ((hno k hki).symm.trans hn) (by rw [← hpo k hki]; exact hk))
  · by_cases hki : k = i
    · subst hki; rw [hni]; exact hfresh (hpi.symm.trans hk)
    · rw [hno k hki]; exact h.fresh k ((hpo k hki).symm.trans hk)

theorem arbInv_step (s : St) (i : Nat) (h : ArbInv s) : ArbInv (step s i) := by
  have hnot : s.pc i = .start ∨ s.pc i = .looked → ¬ (s.pc i = .made ∨ s.pc i = .registered) := by
    rintro (e | e) <;> rw [e] <;> rintro (e' | e') <;> cases e'
  unfold step
  cases hp : s.pc i with
  | start =>
    exact arbInv_move h i .looked (!s.dirExists) (if_pos rfl) (fun k hk => if_neg hk) (if_pos rfl) (fun k hk => if_neg hk)
      id id (fun _ hm => absurd hm (hnot (Or.inl hp))) Or.inl Or.inl (fun e => nomatch e)
      (fun _ e => by rcases e with e | e <;> cases e) (fun e => nomatch e)
  | looked =>
    refine arbInv_move h i .made (s.need i) (if_pos rfl) (fun k hk => if_neg hk) rfl (fun _ _ => rfl)
      (fun hd => ?_) id (fun _ hm => absurd hm (hnot (Or.inr hp))) (fun hd => ?_) Or.inl (fun e => nomatch e)
      (fun hn _ => if_pos hn) (fun e => nomatch e)
    · show (if s.need i = true then true else s.dirExists) = true
      rw [hd]; exact ite_self _
    · cases hn : s.need i with
      | true => exact Or.inr ⟨rfl, Or.inl rfl⟩
      | false =>
        have hd' : (if s.need i = true then true else s.dirExists) = true := hd
        rw [hn] at hd'
        exact Or.inl hd'
  | made =>
    refine arbInv_move h i .registered (s.need i) (if_pos rfl) (fun k hk => if_neg hk) rfl (fun _ _ => rfl)
      id (fun hc => ?_) (fun hn _ => ⟨hn, Or.inr rfl⟩) Or.inl (fun hc => ?_) (fun _ hn => ?_)
      (fun hn _ => h.made i hn (Or.inl hp)) (fun e => nomatch e)
    · show (s.created || s.need i) = true
      rw [hc]; rfl
    · have hc' : (s.created || s.need i) = true := hc
      cases hcr : s.created with
      | true => exact Or.inl rfl
      | false => rw [hcr] at hc'; exact Or.inr (h.made i hc' (Or.inl hp))
    · show (s.created || s.need i) = true
      rw [hn]; exact Bool.or_true _
  | registered => exact h

theorem arbInv_run (sched : List Nat) (s : St) (h : ArbInv s) : ArbInv (run s sched) :=
  foldl_keeps ArbInv sched (fun s i _ => arbInv_step s i) s h

/-- **C09, directory arbitration**: under every interleaving of any number of threads, once every thread that
    started is through, the directory is recorded as created by the build exactly if it exists — which is what
    each sequential order gives.  (That it is recorded only if it exists holds at every moment: `ArbInv.real`.) -/
theorem arbitration_correct (sched : List Nat)
    (hdone : ∀ i, (run {} sched).pc i = .start ∨ (run {} sched).pc i = .registered) :
    (run {} sched).created = (run {} sched).dirExists := by
  have h := arbInv_run sched {} arbInv_init
  cases hd : (run {} sched).dirExists with
  | false =>
    cases hc : (run {} sched).created with
    | false => rfl
    | true => rw [h.real hc] at hd; cases hd
  | true =>
    obtain ⟨k, hk, hk'⟩ := h.maker hd
    rcases hdone k with e | e
    · rw [h.fresh k e] at hk; cases hk
    · exact h.recorded k e hk

/-- on the schedule of `arbitration_counterexample_before_fix` the directory ends up recorded -/
example : (run {} [0, 0, 1, 1, 1, 0]).created = true ∧ (run {} [0, 0, 1, 1, 1, 0]).dirExists = true ∧
    (run {} [0, 0, 1, 1, 1, 0]).count = 2 := by decide

/-- how many of the threads `ids` have registered -/
def registeredCount (s : St) (ids : List Nat) : Nat := (ids.filter (fun i => s.pc i = .registered)).length

theorem registeredCount_congr {s s' : St} (ids : List Nat)
    (h : ∀ j ∈ ids, (s'.pc j = .registered ↔ s.pc j = .registered)) : registeredCount s' ids = registeredCount s ids := by
  unfold registeredCount
  congr 1
  exact List.filter_congr (fun j hj => decide_eq_decide.mpr (h j hj))

theorem registeredCount_register {s s' : St} (i : Nat) (ids : List Nat) (hnd : ids.Nodup) (hi : i ∈ ids)
    (hp : s.pc i ≠ .registered) (hpi : s'.pc i = .registered) (hpo : ∀ k, k ≠ i → s'.pc k = s.pc k) :
    registeredCount s' ids = registeredCount s ids + 1 := by
  induction ids with
  | nil => cases hi
  | cons a r ih =>
    rw [List.nodup_cons] at hnd
    have hcons : ∀ t : St, registeredCount t (a :: r) = (if t.pc a = .registered then 1 else 0) + registeredCount t r := by
      intro t
      unfold registeredCount
      rw [List.filter_cons]
      cases ht : decide (t.pc a = .registered) with
      | true => rw [if_pos rfl, if_pos (of_decide_eq_true ht), List.length_cons, Nat.add_comm]
      | false => rw [if_neg (by decide), if_neg (of_decide_eq_false ht), Nat.zero_add]
    rw [hcons, hcons]
    by_cases ha : a = i
    · subst ha
      rw [if_pos hpi, if_neg hp, registeredCount_congr (s := s) (s' := s') r (fun j hj => by rw [hpo j (fun e => hnd.1 (e ▸ hj))])]
      omega
    · have hir : i ∈ r := (List.mem_cons.mp hi).resolve_left (fun e => ha e.symm)
      rw [hpo a ha, ih hnd.2 hir]
      omega

theorem count_step (s : St) (i : Nat) (ids : List Nat) (hnd : ids.Nodup) (hi : i ∈ ids)
    (h : s.count = registeredCount s ids) : (step s i).count = registeredCount (step s i) ids := by
  have hmove : ∀ c : PC, c ≠ .registered → s.pc i ≠ .registered →
      ∀ j ∈ ids, ((if j = i then c else s.pc j) = .registered ↔ s.pc j = .registered) := by
    intro c hc hs j _
    by_cases hji : j = i
    · subst hji; rw [if_pos rfl]; exact ⟨fun e => absurd e hc, fun e => absurd e hs⟩
    · rw [if_neg hji]
  unfold step
  cases hp : s.pc i with
  | start => exact h.trans (registeredCount_congr ids (hmove .looked (by decide) (by rw [hp]; decide))).symm
  | looked => exact h.trans (registeredCount_congr ids (hmove .made (by decide) (by rw [hp]; decide))).symm
  | registered => exact h
  | made =>
    show s.count + 1 = _
    rw [h]
    exact (registeredCount_register i ids hnd hi (by rw [hp]; decide) (if_pos rfl) (fun k hk => if_neg hk)).symm

theorem registeredCount_init (ids : List Nat) : registeredCount ({} : St) ids = 0 := by
  simp only [registeredCount]
  induction ids with
  | nil => rfl
  | cons a r ih => simpa [List.filter] using ih

/-- under every schedule the reservation count is the number of registered threads (so failed outputs release
    exactly what they reserved) -/
theorem count_is_registered (sched : List Nat) (ids : List Nat) (hnd : ids.Nodup)
    (hs : ∀ i ∈ sched, i ∈ ids) : (run {} sched).count = registeredCount (run {} sched) ids :=
  foldl_keeps (fun s => s.count = registeredCount s ids) sched
    (fun s i hi h => count_step s i ids hnd (hs i hi) h) {} (registeredCount_init ids).symm

end P2

namespace P3

inductive SPC where
  | start | passedEntry | effectDone | appended | rejectedAtEntry | rejectedAtAppend
deriving DecidableEq, Repr, Inhabited

/-- thread 0 is the owner (one step: the locked close), every other thread is a straggler -/
structure St where
  finished : Bool := false
  record : List Nat := []          -- ids of the stragglers whose operation is in the record
  effects : List Nat := []         -- ids of the stragglers whose effect happened
  effectsAfterClose : List Nat := []
  pc : Nat → SPC := fun _ => .start

def step (s : St) (i : Nat) : St :=
  if i = 0 then { s with finished := true }      -- `with self._lock: operation.is_finished = True`
  else match s.pc i with
  | .start =>              -- `_assert_not_finished()` at the entry: an unlocked read
    if s.finished then { s with pc := fun j => if j = i then .rejectedAtEntry else s.pc j }
    else { s with pc := fun j => if j = i then .passedEntry else s.pc j }
  | .passedEntry =>        -- the operation itself (for build_file / subbuild: the user function runs)
    { s with effects := i :: s.effects,
             effectsAfterClose := if s.finished then i :: s.effectsAfterClose else s.effectsAfterClose,
             pc := fun j => if j = i then .effectDone else s.pc j }
  | .effectDone =>         -- `_append_suboperation`: locked check-and-append
    if s.finished then { s with pc := fun j => if j = i then .rejectedAtAppend else s.pc j }
    else { s with record := i :: s.record, pc := fun j => if j = i then .appended else s.pc j }
  | _ => s

def run (s : St) (sched : List Nat) : St := sched.foldl step s

theorem record_frozen_step (s : St) (i : Nat) (h : s.finished = true) :
    (step s i).record = s.record ∧ (step s i).finished = true := by
  by_cases hi : i = 0
  · subst hi; exact ⟨rfl, rfl⟩
  · unfold step
    rw [if_neg hi]
    cases s.pc i <;> simp only [h, if_true, and_self]

theorem record_frozen (sched : List Nat) (s : St) (h : s.finished = true) :
    (run s sched).record = s.record ∧ (run s sched).finished = true :=
  foldl_keeps (fun s' => s'.record = s.record ∧ s'.finished = true) sched
    (fun s' i _ h' => ⟨(record_frozen_step s' i h'.2).1.trans h'.1, (record_frozen_step s' i h'.2).2⟩) s ⟨rfl, h⟩

/-- **C17 (closed records)**: once the owner has closed the record, no observation is ever attached to
    it, whatever the stragglers do afterwards. -/
theorem C17_no_append_after_close (before after : List Nat) :
    (run {} (before ++ 0 :: after)).record = (run {} (before ++ [0])).record := by
  have hsplit : run {} (before ++ 0 :: after) = run (run {} (before ++ [0])) after := by
    simp [run, List.foldl_append]
  rw [hsplit]
  have hfin : (run {} (before ++ [0])).finished = true := by
    simp [run, List.foldl_append, step]
  exact (record_frozen after _ hfin).1

def InvApp (s : St) : Prop := ∀ i, s.pc i = .appended → i ∈ s.record

theorem invApp_move {s s' : St} (h : InvApp s) (i : Nat) (c : SPC) (hpc : s'.pc = fun j => if j = i then c else s.pc j)
    (hrec : ∀ j ∈ s.record, j ∈ s'.record) (hc : c = .appended → i ∈ s'.record) : InvApp s' := by
  intro j hj
  rw [hpc] at hj
  by_cases hji : j = i
  · subst hji; exact hc (by simpa using hj)
  · exact hrec j (h j (by simpa [hji] using hj))

theorem invApp_step (s : St) (i : Nat) (h : InvApp s) : InvApp (step s i) := by
  by_cases hi : i = 0
  · subst hi; exact h
  · unfold step
    rw [if_neg hi]
    cases hp : s.pc i with
    | start =>
      cases s.finished <;> exact invApp_move h i _ rfl (fun _ hj => hj) (fun hc => absurd hc (by decide))
    | passedEntry => exact invApp_move h i _ rfl (fun _ hj => hj) (fun hc => absurd hc (by decide))
    | effectDone =>
      cases s.finished with
      | true => exact invApp_move h i _ rfl (fun _ hj => hj) (fun hc => absurd hc (by decide))
      | false => exact invApp_move h i _ rfl (fun _ hj => List.mem_cons_of_mem _ hj) (fun _ => List.mem_cons_self ..)
    | appended => exact h
    | rejectedAtEntry => exact h
    | rejectedAtAppend => exact h

theorem invApp_run (sched : List Nat) : ∀ (s : St), InvApp s → InvApp (run s sched) :=
  foldl_keeps InvApp sched (fun s i _ => invApp_step s i)

/-- **C17 (completeness of the record)**: an operation that completed before the close is in it. -/
theorem C17_completed_in_record (sched : List Nat) (i : Nat) (h : (run {} sched).pc i = .appended) :
    i ∈ (run {} sched).record :=
  invApp_run sched {} (by intro j hj; simp at hj) i h

/-- **C17 (sequential fence)**: a call that begins after the close is rejected at the entry and has no
    effect. -/
theorem C17_sequential_fence (i : Nat) (hi : i ≠ 0) :
    (run {} [0, i]).pc i = .rejectedAtEntry ∧ (run {} [0, i]).effects = [] := by
  simp [run, step, hi]

/-- **C17 is false of the code for racing `build_file` / `subbuild` stragglers** (known finding D10): a
    straggler that passed the entry check before the close performs its effect after it, and is then
    rejected at the append. -/
theorem straggler_counterexample :
    (run {} [1, 0, 1, 1]).pc 1 = .rejectedAtAppend ∧ (run {} [1, 0, 1, 1]).effectsAfterClose = [1] ∧
    (run {} [1, 0, 1, 1]).record = [] := by decide

end P3

namespace P4

/-- thread `t` holds the locks `held t` and, if blocked, waits for `waits t`; the discipline: a thread
    only ever waits for a lock that is greater than every lock it holds -/
structure Snapshot where
  threads : List Nat
  held : Nat → List Nat
  waits : Nat → Option Nat

def Snapshot.ordered (s : Snapshot) : Prop :=
  ∀ t ∈ s.threads, ∀ l, s.waits t = some l → ∀ h ∈ s.held t, h < l

/-- a deadlock: every thread waits for a lock that another thread of the set holds -/
def Snapshot.deadlocked (s : Snapshot) : Prop :=
  s.threads ≠ [] ∧ ∀ t ∈ s.threads, ∃ l, s.waits t = some l ∧ ∃ u ∈ s.threads, l ∈ s.held u

/-- **deadlock freedom of ordered locking** (the locks of `Cache` are taken in the order
    `_files_lock`, `_subbuilds_lock`, `_created_dirs_lock`; no other lock of the library is taken while
    another is held — the harness checks the observed acquisition edges against this). -/
theorem ordered_no_deadlock (s : Snapshot) (ho : s.ordered) : ¬ s.deadlocked := by
  rintro ⟨hne, hd⟩
  -- take the thread waiting for the greatest lock
  have hex : ∃ t ∈ s.threads, ∃ l, s.waits t = some l ∧
      ∀ t' ∈ s.threads, ∀ l', s.waits t' = some l' → l' ≤ l := by
    have : ∀ (ts : List Nat), ts ≠ [] → (∀ t ∈ ts, ∃ l, s.waits t = some l) →
        ∃ t ∈ ts, ∃ l, s.waits t = some l ∧ ∀ t' ∈ ts, ∀ l', s.waits t' = some l' → l' ≤ l := by
      intro ts
      induction ts with
      | nil => intro h; exact absurd rfl h
      | cons a r ih =>
        intro _ hall
        obtain ⟨la, hla⟩ := hall a (by simp)
        by_cases hr : r = []
        · subst hr
          refine ⟨a, by simp, la, hla, ?_⟩
          intro t' ht' l' hl'
          simp at ht'; subst ht'
          rw [hla] at hl'; injection hl' with e; omega
        · obtain ⟨t, ht, l, hl, hmax⟩ := ih hr (fun t ht => hall t (List.mem_cons_of_mem _ ht))
          by_cases hcmp : l ≤ la
          · refine ⟨a, by simp, la, hla, ?_⟩
            intro t' ht' l' hl'
            rcases List.mem_cons.mp ht' with e | e
            · subst e; rw [hla] at hl'; injection hl' with e; omega
            · have := hmax t' e l' hl'; omega
          · refine ⟨t, List.mem_cons_of_mem _ ht, l, hl, ?_⟩
            intro t' ht' l' hl'
            rcases List.mem_cons.mp ht' with e | e
            · subst e; rw [hla] at hl'; injection hl' with e; omega
            · exact hmax t' e l' hl'
    exact this s.threads hne (fun t ht => by obtain ⟨l, hl, _⟩ := hd t ht; exact ⟨l, hl⟩)
  obtain ⟨t, ht, l, hl, hmax⟩ := hex
  obtain ⟨l0, hl0, u, hu, hheld⟩ := hd t ht
  rw [hl] at hl0; injection hl0 with e; subst e
  -- the holder u of l is blocked too, on a lock greater than l: contradiction with maximality
  obtain ⟨lu, hlu, _⟩ := hd u hu
  have h1 := ho u hu lu hlu l hheld
  have h2 := hmax u hu lu hlu
  omega

end P4
end FB.Conc
